import OapiVerif.Model.TypeMap
import OapiVerif.Gen.C08
import OapiVerif.Proofs.SchemaOrder
import OapiVerif.Proofs.FieldTags
import OapiVerif.Gen.FieldRules
/-!
C08 — Go types follow the documented schema mapping.

The quantifier is a finite product (type × format; required × nullable × readOnly × writeOnly ×
extensions × options; one row per extension), so the tie is TAB: the generator is executed on every
cell on every run (`Gen/C08.lean`) and the kernel re-checks every cell against the documentation
oracles of Model/TypeMap.lean. Independence of the member rule from the member's own type, nesting and
names is covered by CORR on seeded schema trees (harness `c08`).
Below also: the order of the members (`x-order`, Model/SchemaOrder.lean), the struct tags (Model/FieldTags.lean, CORR of its
own) and the pointer / omitempty rules as they stand in the source (`Gen/FieldRules.lean`).
-/
namespace OapiVerif.TypeMap

/-- Every (type, format) pair — each format literal the generator knows plus an unknown one — maps to
the documented Go type, or is rejected where the documentation has no type. -/
theorem C08_type_table : ∀ r ∈ Gen.C08.typeRows, typeRowOk r = true := by decide +kernel

/-- Slices, maps for free-form and additional-properties-only objects, named types for references — at top
level and as optional members (pointers). -/
theorem C08_shape_table : Gen.C08.shapeRows.all shapeRowOk = true ∧
    (List.range 17).all (fun sh => Gen.C08.shapeRows.any (fun r => r.shape == sh && !r.asMember) &&
      Gen.C08.shapeRows.any (fun r => r.shape == sh && r.asMember)) = true := by decide +kernel

/-- The table enumerates the whole domain: 4 types × 21 formats. -/
theorem C08_type_table_complete :
    ∀ ty, ty < 4 → ∀ fmt, fmt < 21 → (Gen.C08.typeRows.any fun r => r.ty == ty && r.fmt == fmt) = true := by
  decide +kernel

/-- Pointer, nullable wrapper, omitempty and json tag of every cell of
required × nullable × readOnly × writeOnly × skip-optional-pointer × x-omitempty × x-go-json-ignore ×
nullable-type × disable-required-readonly-as-pointer are the documented ones. -/
theorem C08_field_table : ∀ r ∈ Gen.C08.fieldRows, fieldRowOk r = true := by
  -- chunk by chunk: the left-nested `++` of the regenerated table is otherwise walked again for every row
  unfold Gen.C08.fieldRows
  simp only [List.forall_mem_append, ← List.all_eq_true, ← Bool.and_eq_true]
  decide +kernel

/-- Each documented extension changes exactly the coordinate it documents and nothing else. -/
theorem C08_extension_table : ∀ r ∈ Gen.C08.extRows, extRowOk r = true := by decide +kernel

theorem C08_extension_table_complete : ∀ e, e < 11 → (Gen.C08.extRows.any fun r => r.ext == e) = true := by
  decide +kernel

/-! Properties of the documentation oracle itself (so that the table check is not vacuous). -/

/-- A required, non-nullable, plain member is neither a pointer nor omitempty. -/
theorem C08_plain_required :
    docPointer ⟨true, false, false, false, 0, 0, 0, false, false, false, false, 0, false⟩ = false ∧
    docOmit ⟨true, false, false, false, 0, 0, 0, false, false, false, false, 0, false⟩ = false := by decide

/-- Optional ⇒ pointer and omitempty; nullable ⇒ pointer and never omitempty (without nullable-type). -/
theorem C08_optional_nullable (ro wo : Bool) :
    docPointer ⟨false, false, ro, wo, 0, 0, 0, false, false, false, false, 0, false⟩ = true ∧
    docOmit ⟨false, false, ro, wo, 0, 0, 0, false, false, false, false, 0, false⟩ = true ∧
    docPointer ⟨true, true, ro, wo, 0, 0, 0, false, false, false, false, 0, false⟩ = true ∧
    docOmit ⟨true, true, ro, wo, 0, 0, 0, false, false, false, false, 0, false⟩ = false := by
  cases ro <;> cases wo <;> decide

/-- `x-go-json-ignore: false` is the same as leaving the extension out: the documentation oracle gives an
explicitly false extension the cell of the unset one, whatever the other coordinates are. -/
theorem C08_json_ignore_false_is_unset (r : FieldRow) (h : r.jsonIgnore = 2) :
    docTagName r = 0 ∧ docTagName { r with jsonIgnore := 0 } = 0 ∧
    docOmit r = docOmit { r with jsonIgnore := 0 } ∧ docPointer r = docPointer { r with jsonIgnore := 0 } :=
  ⟨by rw [docTagName, h]; rfl, rfl, rfl, rfl⟩

end OapiVerif.TypeMap

namespace OapiVerif.SchemaOrder
open OapiVerif.Walks

/-- `x-order` changes the order and nothing else: the keys that come out are the keys of the dictionary, each once. -/
theorem C08_x_order_keeps_every_key (m : List Entry) : (sortedSchemaKeys m).Perm (m.map (·.key)) :=
  (sortedEntries_perm m).map _

/-- … and the order is the documented one: ascending `x-order` (an entry without one counts as the size of the
dictionary), by name among equal orders. -/
theorem C08_x_order_ascending (m : List Entry) :
    (sortedEntries m).Pairwise (fun a b => eff m.length a < eff m.length b ∨
      (eff m.length a = eff m.length b ∧ kle a.key b.key = true)) :=
  (sortedEntries_pairwise m).imp (ole_iff _ _ _).mp

/-- Without any `x-order` the order is the plain order of the names. -/
theorem C08_without_x_order_by_name (m : List Entry) (h : ∀ e ∈ m, e.order = none) :
    (sortedSchemaKeys m).Pairwise (fun a b => kle a b = true) := by
  unfold sortedSchemaKeys
  rw [List.pairwise_map]
  refine (List.Pairwise.and_mem.mp (sortedEntries_pairwise m)).imp ?_
  intro a b ⟨ha, hb, hab⟩
  have ha' := h a ((sortedEntries_perm m).mem_iff.mp ha)
  have hb' := h b ((sortedEntries_perm m).mem_iff.mp hb)
  unfold ole eff at hab
  simpa [ha', hb'] using hab

end OapiVerif.SchemaOrder

namespace OapiVerif.FieldTags

/-- `x-oapi-codegen-extra-tags` **changes exactly its own keys**: a tag key the extension does not name has the value it
has without the extension; a key it names has the extension's value. For every member, every option, every tag map. -/
theorem C08_extra_tags_change_exactly_their_keys (o : Opts) (p : P) (hnd : (p.extra.map (·.1)).Nodup) (k : Str) :
    (k ∉ p.extra.map (·.1) → lookup (fieldTags o p) k = lookup (fieldTags o { p with extra := [] }) k) ∧
    (∀ v, (k, v) ∈ p.extra → lookup (fieldTags o p) k = some v) :=
  ⟨lookup_fieldTags_of_not_extra o p k, lookup_fieldTags_of_extra o p hnd k⟩

/-- Every key stands once in the tag, in ascending order (a repeated key is an error of `go vet` and the second one is
ignored by `reflect`). -/
theorem C08_tag_keys_ascending (o : Opts) (p : P) :
    (fieldTags o p).Pairwise fun a b => Responses.lexLt a.1 b.1 = true :=
  List.foldlRecOn p.extra _ (asc_baseTags o p) fun t h kv _ => asc_insertKV kv.1 kv.2 t h

/-- The JSON tag is the property name, with `,omitempty` exactly when the member is omitted when empty — unless
`x-go-json-ignore: true` (then `-`) or an extra tag named `json` say otherwise. -/
theorem C08_json_tag_is_property_name (o : Opts) (p : P) (hi : p.jsonIgnore ≠ some true) (he : w "json" ∉ p.extra.map (·.1)) :
    lookup (fieldTags o p) (w "json") = some (if omitEmpty o p then p.jsonName ++ w ",omitempty" else p.jsonName) := by
  -- here and below: the kernel is slow at decoding a `String` literal; the rewrite reads the characters off the two literals
  have hfj : w "form" ≠ w "json" := by unfold w; rw [String.toList_ofList, String.toList_ofList]; decide
  rw [lookup_fieldTags_of_not_extra o p _ he, baseTags, if_neg hi, lookup_ite_insertKV _ hfj, lookup_insertKV, if_pos rfl]

/-- `omitempty` with the default options and no `x-omitempty`: exactly for non-nullable members that are optional,
read-only or write-only (the documented rule; the generator's table `Gen/C08.lean` measures the same on the real code). -/
theorem C08_omitempty_rule (p : P) (hx : p.xOmitEmpty = none) :
    omitEmpty ⟨false, false⟩ p = (!p.nullable && (!p.required || p.readOnly || p.writeOnly)) := by
  unfold omitEmpty shouldOmit
  -- with both options off the `nullableType` arm is not taken and the second guard of `shouldOmit` is vacuous
  simp only [hx, Bool.and_false, Bool.false_eq_true, if_false, Bool.not_false, Bool.or_true, Bool.and_true]

/-- **The pointer rule as it stands in the source** (`Property.GoTypeDef`, translated by harness/boolrules.go into
`Gen/FieldRules.lean` on every run) **is the documented one**: a pointer exactly for members that are optional, nullable,
write-only, or read-only — a required read-only member only while `disable-required-readonly-as-pointer` is off — unless
the optional pointer is skipped. All 128 assignments. -/
theorem C08_pointer_rule_translated (skip required nullable readOnly writeOnly disableReqRO nullableType : Bool) :
    Gen.FieldRules.pointerRule skip required nullable readOnly writeOnly disableReqRO nullableType =
      (!skip && (!required || nullable || writeOnly || (readOnly && !(required && disableReqRO)))) := by
  revert skip required nullable readOnly writeOnly disableReqRO nullableType
  decide +kernel

/-- **The omitempty rule as it stands in the source** (`GenFieldsFromProperties`, translated on every run) is the model's
`omitEmpty` for a member without `x-omitempty` — hence, by `C08_omitempty_rule`, the documented rule under the default
options. -/
theorem C08_omitempty_rule_translated (skip : Bool) (o : Opts) (p : P) (hx : p.xOmitEmpty = none) :
    Gen.FieldRules.omitEmptyRule skip p.required p.nullable p.readOnly p.writeOnly o.disableRequiredReadOnlyAsPointer o.nullableType =
      omitEmpty o p := by
  unfold Gen.FieldRules.omitEmptyRule omitEmpty shouldOmit
  rw [hx]

/-- non-vacuity: an optional member of a form body with two extra tags, one of which replaces the form tag -/
example : render (fieldTags ⟨false, false⟩ ⟨w "id", false, false, false, false, true, none, none, [(w "validate", w "required"), (w "form", w "ID")]⟩) =
    w "form:\"ID\" json:\"id,omitempty\" validate:\"required\"" := by
  unfold w; repeat rw [String.toList_ofList]
  decide +kernel

end OapiVerif.FieldTags
