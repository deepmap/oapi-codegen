import OapiVerif.Proofs.Enums
import OapiVerif.Proofs.EnumClash
/-!
C11 — Enum constants are complete and carry the exact specification values.

Model: Model/Enums.lean (`SanitizeEnumNames`, the `%q` rendering and the Go lexer's reading of it).
Ties (harness c11): CORR — `codegen.SanitizeEnumNames` vs `sanitizeEnumNames`, `strconv.Quote`/`Unquote` vs
`quoteGo`/`unquoteGo`; RUN — the generated file type-checked with go/types: the multiset of value sets of the
generated enum types equals the multiset of distinct-value sets of the document's enum schemas.
Model/EnumClash.lean: `GenerateEnums`' choice of the enums whose constants get the type name as prefix (one pass =
the code before the repair, `resolveFix` = the repeated pass); CORR — the constant blocks `GenerateEnums` renders for
seeded enum/type name sets vs `resolveFix`.
-/
namespace OapiVerif.Enums
open OapiVerif.Names

/-- After the first pass every value of the list occurs exactly once (duplicates collapse, nothing else does —
whatever the variable names are), and nothing is invented. -/
theorem C11_stage1_each_value_once (names values : List Str) :
    (∀ v ∈ values, v ∈ (stage1 names values).map (·.2)) ∧
    (∀ p ∈ stage1 names values, p.2 ∈ values) ∧
    ((stage1 names values).map (·.2)).Nodup := by
  obtain ⟨h1, h2⟩ := go_spec names values []
  exact ⟨fun v hv => (h1 v).mpr ⟨hv, List.not_mem_nil⟩, fun p hp => ((h1 p.2).mp (List.mem_map.mpr ⟨p, hp, rfl⟩)).1, h2⟩

/-- `SanitizeEnumNames` (full statement): for every list of values and variable names the function yields
pairwise distinct constant names for exactly the distinct values of the list, each once — no value is dropped,
merged or invented. -/
theorem C11_sanitize_complete (U : Uni) (names values : List Str) :
    ∃ res, sanitizeEnumNames U names values = some res ∧
      (res.map (·.1)).Nodup ∧ (res.map (·.2)).Nodup ∧ (∀ v ∈ values, v ∈ res.map (·.2)) ∧ (∀ p ∈ res, p.2 ∈ values) := by
  obtain ⟨res, h, hn, hv⟩ := stage2_spec (sanitizeName U) (stage1 names values) [] [] List.nodup_nil
  obtain ⟨h1, h2, h3⟩ := C11_stage1_each_value_once names values
  exact ⟨res, h, hn, complete_of_perm (.of_eq hv) ⟨h3, h1, h2⟩⟩

/-- `C11_sanitize_complete` read at a given result (the model's counting loop always finds a name within its fuel). -/
theorem C11_sanitize_complete_partial (U : Uni) (names values : List Str) (res : List (Str × Str))
    (h : sanitizeEnumNames U names values = some res) :
    (res.map (·.1)).Nodup ∧ (res.map (·.2)).Nodup ∧ (∀ v ∈ values, v ∈ res.map (·.2)) ∧ (∀ p ∈ res, p.2 ∈ values) := by
  obtain ⟨res', h', hres⟩ := C11_sanitize_complete U names values
  cases h.symm.trans h'
  exact hres

/-- **The constants `GenerateGoSchema` declares for an enum** (`SanitizeEnumNames`, then the type-name renaming of every
name, in whatever order the names are walked): pairwise distinct names, and as values exactly the distinct values of the
schema, each once — no value is dropped or merged by either renaming. For every value list, every variable-name list, every
renaming function. -/
theorem C11_declared_constants_complete (U : Uni) (norm : Str → Str) (names values : List Str) :
    ∃ res, sanitizeEnumNames U names values = some res ∧
      ∀ ps : List (Str × Str), ps.Perm res →
        ∃ out, pass3 norm ps [] = some out ∧ (out.map (·.1)).Nodup ∧ (out.map (·.2)).Nodup ∧
          (∀ v ∈ values, v ∈ out.map (·.2)) ∧ (∀ p ∈ out, p.2 ∈ values) := by
  obtain ⟨res, hr, _, hres⟩ := C11_sanitize_complete U names values
  refine ⟨res, hr, fun ps hp => ?_⟩
  obtain ⟨out, h1, h2, h3⟩ := pass3_spec norm ps [] List.nodup_nil
  exact ⟨out, h1, h2, complete_of_perm (h3 ▸ hp.map _) hres⟩

/-- Pre-repair witness (replayed on the code: enum `[" 1a", "a"]` declared the single constant `A = "a"`; repaired in
/repo): the renamed names were map keys, the second value replaced the first. `norm` stands for the renaming on these
two names. -/
theorem C11_third_pass_old_witness :
    let norm : Str → Str := fun n => if n = [95, 97] then [65] else n      -- "_a" ↦ "A"
    pass3Old norm [([95, 97], [32, 49, 97]), ([65], [97])] = [([65], [97])] ∧
    pass3 norm [([65], [97]), ([95, 97], [32, 49, 97])] [] = some [([65], [97]), ([65, 49], [32, 49, 97])] := by decide +kernel

/-- The constant's compiled value is the specification's value, for every byte string: quotes, backslashes,
newlines and control characters included. -/
theorem C11_literal_exact (s : Str) (hs : ∀ b ∈ s, b < 256) : unquoteGo (quoteGo s) = some s := by
  simp only [quoteGo, List.cons_append, List.nil_append, unquoteGo]
  exact unqBody_quoteBody s

def Plain (v : Str) : Prop := ∀ b ∈ v, b ≠ 34 ∧ b ≠ 92 ∧ b ≠ 10

/-- Before the repair the value was pasted between quotes: exact only for values without quote, backslash
and newline … -/
theorem C11_raw_literal_exact_partial (v : Str) (h : Plain v) : unquoteGo (rawLit v) = some v := by
  simp only [rawLit, List.cons_append, List.nil_append, unquoteGo]
  exact unqBody_plain v h

/-- … a literal backslash-t became a TAB and a quote made the file unparsable (both reproduced on the real
generator; `fixed:`). -/
theorem C11_raw_literal_witnesses :
    unquoteGo (rawLit [97, 92, 116, 98]) = some [97, 9, 98] ∧ unquoteGo (rawLit [113, 34, 120]) = none := by
  constructor <;> decide +kernel

example : sanitizeEnumNames asciiUni [] [w "foo1", w "Foo", w "foo"] =
    some [(w "Foo1", w "foo1"), (w "Foo", w "Foo"), (w "Foo2", w "foo")] := by decide +kernel

example : ∀ b ∈ w "a\\tb\"\n", b < 256 := by decide +kernel

end OapiVerif.Enums

namespace OapiVerif.Props.C11
open OapiVerif.EnumClash

/-- One pass keeps the enums: same types, same order, same names (that it only raises flags is `resolve_le`). -/
theorem C11_pass_keeps_enums (uc : Str → Str) (types : List Str) (l : List E) :
    (resolve uc types l).map (fun e => (e.ty, e.names)) = l.map (fun e => (e.ty, e.names)) :=
  all₂_le_map_key (resolve_le uc types l)

/-- After one pass (the code before the repair), two enums that both stay unprefixed share no constant name … -/
theorem C11_unprefixed_enums_share_no_name (uc : Str → Str) (types : List Str) (l : List E) :
    (resolve uc types l).Pairwise fun a b => a.pre = false → b.pre = false → ∀ k, k ∈ a.names → k ∉ b.names :=
  resolve_pairwise uc types l

/-- … and an unprefixed enum has no constant called like a type of the package, its own type included. -/
theorem C11_unprefixed_enum_avoids_type_names (uc : Str → Str) (types : List Str) (l : List E) :
    ∀ e ∈ resolve uc types l, e.pre = false → (∀ t ∈ types, t ∉ e.names) ∧ e.ty ∉ e.names :=
  resolve_mem_unprefixed uc types l

/-- The repaired code repeats the pass until nothing changes; `length + 1` passes are enough. -/
theorem C11_resolveFix_is_fixpoint (uc : Str → Str) (types : List Str) (l : List E) :
    resolve uc types (resolveFix uc types l) = resolveFix uc types l :=
  iter_reaches_fixpoint (resolve uc types) (List.countP (!·.pre)) (fun x => all₂_le_eq_or_lt (resolve_le uc types x))
    (l.length + 1) l (Nat.le_succ_of_le List.countP_le_length)

theorem length_iter_resolve (uc : Str → Str) (types : List Str) (n : Nat) (l : List E) :
    (iter (resolve uc types) n l).length = l.length := by
  induction n generalizing l with
  | zero => rfl
  | succ n ih => simp only [iter]; rw [ih]; exact (resolve_le uc types l).length_eq.symm

/-- **Constants of different enums.** In the final flags, the constant names two enums emit (`GetValues`, prefix
applied) intersect only if both enums are prefixed: every clash that involves an unprefixed enum is resolved. -/
theorem C11_clash_only_between_prefixed (uc : Str → Str) (types : List Str) (l : List E) :
    (resolveFix uc types l).Pairwise fun a b => clash uc a b = true → a.pre = true ∧ b.pre = true :=
  resolve_fix_pairwise uc types _ (C11_resolveFix_is_fixpoint uc types l)

/-- and an unprefixed enum has no constant called like a type (the fixpoint is the result of a pass). -/
theorem C11_final_unprefixed_avoids_type_names (uc : Str → Str) (types : List Str) (l : List E) :
    ∀ e ∈ resolveFix uc types l, e.pre = false → (∀ t ∈ types, t ∉ e.names) ∧ e.ty ∉ e.names := by
  intro e he
  rw [← C11_resolveFix_is_fixpoint uc types l] at he
  exact C11_unprefixed_enum_avoids_type_names uc types _ e he

def wS (s : String) : Str := s.toList.map Char.toNat

/-- Non-vacuity and the pre-repair defect: enum `Abc [ZedX]` before `Zed [X]`, `Zee [X]`. One pass prefixes
Zed and Zee — after `Abc` has been compared with them — and `ZedX` is declared twice; the repeated pass prefixes
`Abc` as well. (Replayed on the code: known-findings.txt.) -/
theorem C11_single_pass_witness :
    let l := [E.mk (wS "Abc") [wS "ZedX"] false, E.mk (wS "Zed") [wS "X"] false, E.mk (wS "Zee") [wS "X"] false]
    constants id (resolve id [] l) = [wS "ZedX", wS "ZedX", wS "ZeeX"] ∧
    constants id (resolveFix id [] l) = [wS "AbcZedX", wS "ZedX", wS "ZeeX"] := by decide +kernel

/-- What prefixing cannot resolve: two prefixed enums whose type names overlap (`AB`+`C` = `A`+`BC`). -/
theorem C11_prefixed_clash_witness :
    let l := [E.mk (wS "A") [wS "BC", wS "x"] false, E.mk (wS "AB") [wS "C", wS "x"] false]
    constants id (resolveFix id [] l) = [wS "ABC", wS "Ax", wS "ABC", wS "ABx"] := by decide +kernel

end OapiVerif.Props.C11
