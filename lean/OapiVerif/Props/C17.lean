import OapiVerif.Gen.C17
/-!
C17 — A generation is independent of earlier generations in the process.

Model: Model/Globals.lean. Tie: FACT `Gen/C17.lean` — every package-level `var` of pkg/codegen with
the functions that assign it (go/ast), re-checked by `C17_globals_table`; RUN — for every pair of
option settings (predecessor, successor) and for seeded longer histories (other documents, failing
calls, user templates) the last output is compared with a fresh process.
-/
namespace OapiVerif.Globals

/-- What a call renders with does not depend on the state it starts from. -/
theorem step_out_indep (g g' : State) (c : Call) : (step g c).2 = (step g' c).2 := rfl

/-- The state a call leaves behind does not depend on the state it starts from either (so aborted
calls leave nothing behind that a later call could observe). -/
theorem step_state_indep (g g' : State) (c : Call) : (step g c).1 = (step g' c).1 := rfl

/-- the last call of a history runs on the state the earlier calls leave behind -/
theorem lastOut_snoc (st : State → Call → State × Option Eff) (g : State) (hist : List Call) (c : Call) :
    lastOut st g (hist ++ [c]) = some (st (hist.foldl (fun g x => (st g x).1) g) c).2 := by
  induction hist generalizing g with
  | nil => rfl
  | cons x rest ih => cases rest with
    | nil => rfl
    | cons y ys => exact ih (st g x).1

/-- The output of a generation depends only on its own document and configuration: any finite history
of earlier calls — other documents, other options, failing calls — leaves it equal to the output of the
same call in a fresh process. -/
theorem C17_history_independent (hist : List Call) (c : Call) :
    lastOut step init (hist ++ [c]) = lastOut step init [c] :=
  (lastOut_snoc step init hist c).trans (congrArg some (step_out_indep _ init c))

/-- Before the repair the full statement was false: a call with `response-type-suffix: Resp` made the
next call without the option use `Resp` (reproduced on the real code; see known-findings.txt `fixed:`). -/
theorem C17_old_suffix_leak_witness :
    ∃ hist c, lastOut stepOld init (hist ++ [c]) ≠ lastOut stepOld init [c] :=
  ⟨[⟨⟨some [82], 0, none, 0, 0⟩, 0⟩], ⟨⟨none, 0, none, 0, 0⟩, 0⟩, by decide +kernel⟩

/-- FACT: every package-level variable is either never written after initialisation or assigned
unconditionally at the top of Generate (and otherwise only by the public setters). -/
theorem C17_globals_table : ∀ r ∈ Gen.C17.vars, varOk r = true := by decide +kernel

/-- FACT: the mutable package state is exactly what the model covers — a new cache, counter or
memo table at package level breaks this obligation. -/
theorem C17_mutables_modelled :
    ((Gen.C17.vars.filter (fun r => !r.initOnly)).map (·.name)).all (modelledMutables.contains ·) = true := by
  decide +kernel

example : lastOut step init [⟨⟨some [82], 0, none, 0, 0⟩, 0⟩, ⟨⟨none, 9, none, 0, 0⟩, 1⟩, ⟨⟨none, 0, none, 0, 0⟩, 2⟩]
    = some (some ⟨defaultSuffix, 0, defaultClient, 0, 0, 2⟩) := by decide +kernel

end OapiVerif.Globals
