import OapiVerif.Model.Security
import OapiVerif.Props.C02
import OapiVerif.Proofs.Embed
import OapiVerif.Proofs.QueryWire
import OapiVerif.Gen.SecurityRule
/-!
C18 — Security requirements are carried faithfully on both sides.

Model: Model/Security.lean. Ties (harness c18): CORR in-process — `OperationDefinitions` of the real
generator against `opDefs`, the constants block against `constants`, every request editor of
pkg/securityprovider against the model on seeded requests and credentials; RUN — the context values the
stub handler of the generated server sees, on the seven frameworks, for global / per-operation
requirement lists (absent, empty, one or several schemes, AND/OR, scope lists, names needing sanitising).
-/
namespace OapiVerif.Security
open OapiVerif.Walks OapiVerif.Names

/-- Operation-level requirements replace the global ones … -/
theorem C18_override (g rs : List Req) : opDefs g (some rs) = describe rs := rfl

/-- … an empty list clears them … -/
theorem C18_clear (g : List Req) : opDefs g (some []) = [] := rfl

/-- … and an operation without a list inherits the global one. -/
theorem C18_inherit (g : List Req) : opDefs g none = describe g := rfl

/-- The definitions of one requirement are exactly its (scheme, scopes) pairs: nothing dropped, nothing
added, scope lists untouched. -/
theorem C18_describeReq_exact (r : Req) (hnd : (r.map (·.1)).Nodup) (d : Def) :
    d ∈ describeReq r ↔ (d.provider, d.scopes) ∈ r := by
  unfold describeReq sortedEmit sortedKeys
  simp only [List.mem_filterMap, List.mem_mergeSort, List.mem_map, Option.map_eq_some_iff]
  constructor
  · rintro ⟨k, _, v, hl, rfl⟩
    exact Assoc.mem_of_get hl
  · intro hm
    exact ⟨d.provider, ⟨(d.provider, d.scopes), hm, rfl⟩, d.scopes, (Assoc.get_eq_some_iff hnd).mpr hm, rfl⟩

/-- … and so are the definitions of a requirement list, whatever the number of alternatives. -/
theorem C18_describe_exact (rs : List Req) (hnd : ∀ r ∈ rs, (r.map (·.1)).Nodup) (d : Def) :
    d ∈ describe rs ↔ ∃ r ∈ rs, (d.provider, d.scopes) ∈ r := by
  unfold describe
  rw [List.mem_flatMap]
  exact exists_congr fun r => and_congr_right fun hr => C18_describeReq_exact r (hnd r hr) d

/-- The result does not depend on the iteration order of the requirement map. -/
theorem C18_describeReq_order_independent (r₁ r₂ : Req) (h : r₁.Perm r₂) (hnd : (r₁.map (·.1)).Nodup) :
    describeReq r₁ = describeReq r₂ :=
  C02_sortedEmit_deterministic _ r₁ r₂ h hnd

/-- Under the key of a scheme that applies to the operation the handler finds exactly that scheme's
scopes (when the scheme has one scope list in the operation and no other applying scheme sanitises to the
same key). -/
theorem C18_ctx_exact (U : Uni) (defs : List Def) (p : Key) (s : Scopes)
    (hmem : ⟨p, s⟩ ∈ defs)
    (hkey : ∀ d ∈ defs, keyValue U d.provider = keyValue U p → d.scopes = s) :
    ctxGet (publish U defs) (keyValue U p) = some s := by
  rw [ctxGet_publish]
  cases hf : defs.reverse.find? (keyValue U ·.provider = keyValue U p) with
  | none => exact absurd (decide_eq_true rfl) (List.find?_eq_none.mp hf ⟨p, s⟩ (List.mem_reverse.mpr hmem))
  | some d =>
    exact congrArg some (hkey d (List.mem_reverse.mp (List.mem_of_find?_eq_some hf)) (by simpa using List.find?_some hf))

/-- Under any other key nothing is published: schemes that do not apply leave no trace. -/
theorem C18_ctx_nothing_else (U : Uni) (defs : List Def) (key : Str)
    (h : ∀ d ∈ defs, keyValue U d.provider ≠ key) : ctxGet (publish U defs) key = none := by
  rw [ctxGet_publish, Option.map_eq_none_iff, List.find?_eq_none]
  exact fun d hd => by simpa using h d (List.mem_reverse.mp hd)

/-- A cleared operation publishes nothing at all. -/
theorem C18_cleared_publishes_nothing (U : Uni) (g : List Req) (key : Str) :
    ctxGet (publish U (opDefs g (some []))) key = none := rfl

/-- When a scheme occurs in several alternatives the last scope list is the one left in the context. -/
theorem C18_last_write_wins (U : Uni) (defs : List Def) (d : Def) :
    ctxGet (publish U (defs ++ [d])) (keyValue U d.provider) = some d.scopes := by
  -- the reversed list of writes begins with `d`
  rw [ctxGet_publish, List.reverse_append, List.reverse_singleton, List.singleton_append,
    List.find?_cons_of_pos (l := defs.reverse) (a := d) (decide_eq_true rfl)]
  rfl

/-- Every scheme that applies to some operation has its constant, with the name the wrappers use. -/
theorem C18_constant_for_every_scheme (U : Uni) (ops : List (List Def)) (defs : List Def) (d : Def)
    (ho : defs ∈ ops) (hd : d ∈ defs) : (keyIdent U d.provider, keyValue U d.provider) ∈ constants U ops := by
  unfold constants keyIdent keyValue
  simp only [List.mem_map, List.mem_mergeSort, List.mem_eraseDups, List.mem_flatten]
  exact ⟨sanitizeGoIdentity U d.provider, ⟨d, ⟨defs, ho, hd⟩, rfl⟩, rfl⟩

/-- Two scheme names that sanitise to one identifier share one key (so `C18_ctx_exact` needs its
hypothesis): `api-key` and `api_key`. -/
theorem C18_keys_collide_witness :
    keyValue asciiUni (w "api-key") = keyValue asciiUni (w "api_key") ∧ w "api-key" ≠ w "api_key" := by
  -- the two names differ in a rune that is not valid in a Go identifier: after the rune-wise replacement they are one
  -- string, and `sanitizeGoIdentity` looks at nothing else
  have h : ((w "api-key").zipIdx.map fun (c, i) => if validRune asciiUni i c then c else 95) =
      (w "api_key").zipIdx.map fun (c, i) => if validRune asciiUni i c then c else 95 := by decide +kernel
  exact ⟨by unfold keyValue sanitizeGoIdentity; rw [h], by decide +kernel⟩

structure SameButHeader (k : Str) (r r' : Request) : Prop where
  method : r'.method = r.method
  path : r'.path = r.path
  query : r'.query = r.query
  body : r'.body = r.body
  others : ∀ k', k' ≠ k → hGet r'.headers k' = hGet r.headers k'

/-- An editor that assigns to one header leaves the rest of the request alone; every editor but the query one is of
this form. -/
theorem sameButHeader_upd (f : List Str → List Str) (k : Str) (r : Request) :
    SameButHeader k r { r with headers := upd f r.headers k } :=
  ⟨rfl, rfl, rfl, rfl, fun k' hne => (hGet_upd f r.headers k k').trans (if_neg (Ne.symm hne))⟩

/-- Basic: the Authorization header is replaced by exactly `Basic base64(user:password)` — decoding
gives the credentials back — and nothing else changes. -/
theorem C18_basic (user pass : Str) (r : Request) (hu : ∀ b ∈ user, b < 256) (hp : ∀ b ∈ pass, b < 256) :
    (∃ enc, hGet (basic user pass r).headers authorization = some [w "Basic " ++ enc] ∧
            Embed.b64decode enc = some (user ++ [58] ++ pass)) ∧
    SameButHeader authorization r (basic user pass r) := by
  refine ⟨⟨_, hGet_hSet _ _ _, Embed.b64decode_b64encode _ ?_⟩, sameButHeader_upd _ _ r⟩
  intro b hb
  simp only [List.mem_append, List.mem_singleton] at hb
  rcases hb with (hb | rfl) | hb
  · exact hu b hb
  · decide
  · exact hp b hb

/-- Bearer: exactly `Bearer <token>`, replacing any earlier Authorization, nothing else changes. -/
theorem C18_bearer (token : Str) (r : Request) :
    hGet (bearer token r).headers authorization = some [w "Bearer " ++ token] ∧
    SameButHeader authorization r (bearer token r) :=
  ⟨hGet_hSet _ _ _, sameButHeader_upd _ _ r⟩

/-- API key in a header: the key is added as one more value of that header (earlier values stay). -/
theorem C18_apikey_header (name key : Str) (r : Request) :
    hGet (apiKeyHeader name key r).headers (canonHeader name) = some ((hGet r.headers (canonHeader name)).getD [] ++ [key]) ∧
    SameButHeader (canonHeader name) r (apiKeyHeader name key r) :=
  ⟨hGet_hAdd _ _ _, sameButHeader_upd _ _ r⟩

theorem qAdd_eq_upd (q : Codec.Query) (k v : Str) : Codec.qAdd q k v = upd (· ++ [v]) q k := rfl
theorem qLookup_eq_hGet (q : Codec.Query) (k : Str) : Codec.qLookup q k = hGet q k := rfl

/-- API key in the query: the parsed query gains exactly one value under the name, every other
parameter keeps its values, headers and the rest stay. -/
theorem C18_apikey_query (name key : Str) (r : Request) :
    Codec.qLookup (apiKeyQuery name key r).query name = some ((Codec.qLookup r.query name).getD [] ++ [key]) ∧
    (∀ k', k' ≠ name → Codec.qLookup (apiKeyQuery name key r).query k' = Codec.qLookup r.query k') ∧
    (apiKeyQuery name key r).headers = r.headers ∧ (apiKeyQuery name key r).method = r.method ∧
    (apiKeyQuery name key r).path = r.path ∧ (apiKeyQuery name key r).body = r.body :=
  ⟨(qLookup_qAdd r.query name key name).trans (if_pos rfl), fun k' hne => (qLookup_qAdd r.query name key k').trans (if_neg (Ne.symm hne)),
   rfl, rfl, rfl, rfl⟩

def cookieSafe (key : Str) : Prop := key ≠ [] ∧ ∀ b ∈ key, validCookieValueByte b = true ∧ b ≠ 32 ∧ b ≠ 44

/-- API key in a cookie: for a credential made of cookie octets, `name=key` is appended to the
existing cookies (or becomes the Cookie header), nothing else changes. -/
theorem C18_apikey_cookie (name key : Str) (r : Request) (hk : cookieSafe key)
    (hn : ∀ b ∈ name, b ≠ 10 ∧ b ≠ 13) :
    (hGet (apiKeyCookie name key r).headers cookieHdr =
      some [match hGet r.headers cookieHdr with
            | some (c :: _) => if c = [] then name ++ [61] ++ key else c ++ w "; " ++ (name ++ [61] ++ key)
            | _ => name ++ [61] ++ key]) ∧
    SameButHeader cookieHdr r (apiKeyCookie name key r) := by
  unfold apiKeyCookie
  rw [sanitizeCookieValue_safe key hk.2, sanitizeCookieName_safe name hn]
  -- no cookie line, or a first line that is empty or not: whichever assignment runs, it is `Header.Set("Cookie", ·)`
  rcases hGet r.headers cookieHdr with _ | _ | ⟨_ | _, _⟩ <;> exact ⟨hGet_hSet _ _ _, sameButHeader_upd _ _ r⟩

section QueryWire
open OapiVerif.Codec

/-- The query editor at wire level: what `url.ParseQuery` reads from `Values.Encode` of a query has, under every
name, exactly the values of that name in their order — nothing lost to escaping, whatever bytes names and values
contain. -/
theorem C18_query_wire_roundtrip (q : Query) (hk : (q.map (·.1)).Nodup)
    (hb : ∀ e ∈ q, Bytes e.1 ∧ ∀ v ∈ e.2, Bytes v) :
    ∃ q', parseQuery (encodeQuery q) = .ok q' ∧ ∀ k, (qLookup q' k).getD [] = (qLookup q k).getD [] := by
  refine ⟨_, parse_encode q fun kv hkv => ?_, fun k => by rw [getD_qAddAll, pairsOf_values q hk k]; rfl⟩
  obtain ⟨vs, hm, hv⟩ := mem_pairsOf hkv
  exact ⟨(hb _ hm).1, (hb _ hm).2 _ hv⟩

end QueryWire

example : describe [[(w "a", [w "r"])], [(w "c", [w "x", w "y"])]] = [⟨w "a", [w "r"]⟩, ⟨w "c", [w "x", w "y"]⟩] := by
  simp only [describe, describeReq, sortedEmit, sortedKeys, List.flatMap_cons, List.flatMap_nil, List.map_cons, List.map_nil,
    List.mergeSort_singleton]
  rfl
example : keyIdent asciiUni (w "api-key") = w "Api_keyScopes" ∧ keyValue asciiUni (w "api-key") = w "api_key.Scopes" := by
  -- the kernel decodes a `String` literal slowly: the rewrite reads the characters off the literals
  unfold w; repeat rw [String.toList_ofList]
  decide +kernel
example : cookieSafe (w "abc123") := by unfold cookieSafe; decide

/-- **The override rule as it stands in the source** (`OperationDefinitions`, translated by harness/secrule.go into
`Gen/SecurityRule.lean` on every run) is the model's `opDefs`: an operation that has a security list of its own — an empty one
included — carries that list, an operation without one the global list. The translator also checks that the security
definitions of an operation are assigned in these two places and nowhere else. -/
theorem C18_security_rule_translated (global : List Req) (op : Option (List Req)) :
    evalRule Gen.SecurityRule.rule global op = opDefs global op := by
  unfold Gen.SecurityRule.rule evalRule opDefs pick
  cases op <;> simp

end OapiVerif.Security
