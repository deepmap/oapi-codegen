import OapiVerif.Props.C04
import OapiVerif.Gen.C05
import OapiVerif.Gen.StyleDefaults
/-!
C05 — Parameter wire format follows the OpenAPI style rules.

`oasSerialize` (Model/Codec.lean) is a row-by-row transcription of the OAS 3.0.3 "Style Values /
Style Examples" table, independent of the prefix/separator computation of the runtime model.
Tie: CORR of `styleParam` with the pinned runtime (shared with C04); TAB `Gen/C05.lean` — the
generator's `ParameterDefinition.Style()/Explode()` executed on every (location, style?, explode?)
and every literal style/explode/required/location argument of the runtime calls in code generated
for the whole shape space, for the client and all seven servers; RUN — requests built by the generated
client compared with `oasWire`, and hand-serialised `oasWire` requests served by every framework.
-/
namespace OapiVerif.Codec

theorem join_singleton_sep_eq_commaList (xs : List Str) : join [cComma] xs = commaList xs := rfl

/-- The runtime's serialisation of a primitive is the OAS row, for every style and value. -/
theorem C05_prim_eq_oas (st : Style) (explode : Bool) (name : Str) (loc : Loc) (s : Str) :
    styleParam st explode name loc (.prim s) = oasWire st explode name loc (.prim s) := by
  cases st with
  | simple | label => rfl
  | matrix => exact List.append_assoc (cSemi :: name) [cEq] _
  | form => exact List.append_assoc name [cEq] _

/-- … of a non-empty array … -/
theorem C05_array_eq_oas (st : Style) (explode : Bool) (name : Str) (loc : Loc) (xs : List Str)
    (hne : xs ≠ []) :
    styleParam st explode name loc (.arr xs) = oasWire st explode name loc (.arr xs) :=
  (styleParam_mapStr st explode name loc (.arr xs)).trans (arr_eq_oas st explode name _ (join_map_ne_nil _ xs hne))

/-- … and of a non-empty flat object. -/
theorem C05_object_eq_oas (st : Style) (explode : Bool) (name : Str) (loc : Loc)
    (kvs : List (Str × Str)) (hne : kvs ≠ []) :
    styleParam st explode name loc (.obj kvs) = oasWire st explode name loc (.obj kvs) :=
  (styleParam_mapStr st explode name loc (.obj kvs)).trans (obj_eq_oas st explode name _ (by simpa using hne))

/-- Interoperability, server side: the OAS serialisation of a representable array / object sent by any
conforming client is decoded to the prescribed value (a primitive: `C04_prim_roundtrip`, the two wires agree by `C05_prim_eq_oas`). -/
theorem C05_bind_accepts_oas_array (st : Style) (hst : st ≠ .form) (explode required : Bool) (name : Str)
    (loc : Loc) (hloc : loc ≠ .undefined) (xs : List Str) (hR : ArrRepr st explode name loc xs)
    (hreq : required = true → oasWire st explode name loc (.arr xs) ≠ []) :
    bindStyled st explode required name loc .arr (oasWire st explode name loc (.arr xs)) = .ok (.arr xs) := by
  rw [← C05_array_eq_oas st explode name loc xs hR.ne] at hreq ⊢
  exact C04_array_roundtrip st hst explode required name loc hloc xs hR hreq

theorem C05_bind_accepts_oas_object (st : Style) (hst : st ≠ .form) (explode required : Bool) (name : Str)
    (loc : Loc) (hloc : loc ≠ .undefined) (kvs : List (Str × Str)) (hR : ObjRepr st explode name loc kvs)
    (hreq : required = true → oasWire st explode name loc (.obj kvs) ≠ []) :
    bindStyled st explode required name loc .obj (oasWire st explode name loc (.obj kvs)) = .ok (.obj kvs) := by
  rw [← C05_object_eq_oas st explode name loc kvs hR.ne] at hreq ⊢
  exact C04_object_roundtrip st hst explode required name loc hloc kvs hR hreq

open OapiVerif.Gen.C05 in
/-- TAB: the generator's per-location defaults are the OAS defaults on every supported
(location, style?, explode?) triple. -/
theorem C05_defaults_eq_oas : ∀ r ∈ defaultsTable, defaultRowOk r = true := by decide +kernel

open OapiVerif.Gen.C05 in
/-- TAB/FACT: every runtime call in the code generated for the whole shape space (client and the
seven servers) carries the OAS-prescribed style / explode, the declared `required`, and a location
consistent between client and server. -/
theorem C05_callsites_ok : ∀ r ∈ siteTable, siteRowOk r = true := by
  -- chunk by chunk: the left-nested `++` of the table is otherwise walked again for every row
  unfold Gen.C05.siteTable
  simp only [List.forall_mem_append, ← List.all_eq_true, ← Bool.and_eq_true]
  decide +kernel

/-- the name of a location / a style as the document spells it -/
def Loc.text : Loc → String
  | .path => "path" | .query => "query" | .header => "header" | .cookie => "cookie" | .undefined => ""
def Style.text : Style → String
  | .simple => "simple" | .label => "label" | .matrix => "matrix" | .form => "form"

/-- Go's `switch in { case …: return … }`: the first case that lists the location -/
def switchOn {α : Type} (cases : List (List String × α)) (loc : String) : Option α :=
  (cases.find? fun c => c.1.contains loc).map (·.2)

/-- **The per-location defaults as they stand in the source** (`ParameterDefinition.Style()` / `Explode()`, translated by
harness/styleswitch.go into `Gen/StyleDefaults.lean` on every run) **are the OpenAPI defaults**: for each of the four
locations the switch returns the default style of that location, and the default explode of that style (true exactly for
form); any other location reaches the `default:` clause, which panics rather than choosing silently. -/
theorem C05_defaults_translated :
    (∀ loc ∈ [Loc.path, .query, .header, .cookie],
      switchOn Gen.StyleDefaults.styleCases loc.text = some (oasDefaultStyle loc).text ∧
      switchOn Gen.StyleDefaults.explodeCases loc.text = some (oasDefaultExplode (oasDefaultStyle loc))) ∧
    switchOn Gen.StyleDefaults.styleCases Loc.undefined.text = none ∧
    switchOn Gen.StyleDefaults.explodeCases Loc.undefined.text = none := by
  decide +kernel

end OapiVerif.Codec
