import OapiVerif.Proofs.Paths
import OapiVerif.Proofs.Combine
/-!
C03 — Every operation is routed to its own handler with its own path variables.

Model: Model/Paths.lean. Tie: CORR of `scan`/`orderedParams`/`translate`/`sortParamsByPath` with
`OrderedParamsFromUri`, the seven `SwaggerUriTo…Uri` functions and `SortParamsByPath` (seeded and
exhaustive short templates over the alphabet `{ } * . ; ? a /`), and RUN: generated documents ×
concrete request paths × 7 frameworks × base URL, the observed (handler, arguments by name) compared
with `route`. The last section is `CombineOperationParameters` (Model/Combine.lean, CORR of its own).
-/
namespace OapiVerif.Paths

/-- On every OAS-conforming template (variables are whole segments named by name characters) the
regular expression finds exactly the declared variables, in path order … -/
theorem C03_ordered_params (segs : List Seg) (hwf : ∀ sg ∈ segs, wfSeg sg = true) :
    orderedParams (render segs) = segs.filterMap segVar := by
  rw [orderedParams, scan_render segs hwf, filterMap_toks]

/-- … the chi / gorilla / std-http translation leaves such a template unchanged (its static text
and its variable names) … -/
theorem C03_translate_chi (segs : List Seg) (hwf : ∀ sg ∈ segs, wfSeg sg = true) :
    toChi (render segs) = render segs := by
  rw [toChi, translate_render _ _ segs hwf]
  rfl

/-- … the std-http translation is the same text, closed with `{$}` exactly when the template ends in a slash (a
ServeMux pattern ending in a slash would otherwise stand for every path below it) … -/
theorem C03_translate_stdhttp (segs : List Seg) (hwf : ∀ sg ∈ segs, wfSeg sg = true) :
    toStdHttp (render segs) =
      if (render segs).getLast? = some cSlash then render segs ++ [cOpen, 36, cClose] else render segs := by
  simp only [toStdHttp, C03_translate_chi segs hwf]

/-- … and the echo / gin / fiber / iris translation replaces each `{name}` by `:name`, nothing else. -/
theorem C03_translate_colon (segs : List Seg) (hwf : ∀ sg ∈ segs, wfSeg sg = true) :
    toColon (render segs) = segs.flatMap fun sg => cSlash :: colonSeg sg := by
  rw [toColon, translate_render _ _ segs hwf]
  congr 1; funext sg
  cases sg <;> simp [colonSeg]

/-- `SortParamsByPath`: the arguments follow the order of the variables in the path, whatever the order of declaration. -/
theorem C03_sort_names (path : Str) (ps out : List Param) (h : sortParamsByPath path ps = .ok out) :
    out.map (·.name) = orderedParams path := (pick_ok ps _ out (pick_of_sort h)).1

/-- Every argument handed to the handler is one of the declared parameters. -/
theorem C03_sort_mem (path : Str) (ps out : List Param) (h : sortParamsByPath path ps = .ok out) :
    ∀ p ∈ out, p ∈ ps := (pick_ok ps _ out (pick_of_sort h)).2

/-- The generated signature does not depend on the order in which the path parameters are declared
(path-level before operation-level, or any shuffle). -/
theorem C03_sort_order_independent (path : Str) (ps ps' : List Param) (hp : ps.Perm ps')
    (hnd : (ps.map (·.name)).Nodup) : sortParamsByPath path ps = sortParamsByPath path ps' := by
  unfold sortParamsByPath
  simp only [hp.length_eq, pick_perm ps ps' hp hnd]

/-- A request is dispatched only to an operation whose method and path template match it, with the
variables bound to the request's own segments. -/
theorem C03_route_sound (ops : List Op) (m : Nat) (path : List Str) (o : Op) (b : List (Str × Str))
    (h : route ops m path = some (o, b)) :
    o ∈ ops ∧ o.method = m ∧ matchSegs o.segs path = some b := by
  obtain ⟨hc, hb⟩ := route_some h
  obtain ⟨ho, hm, _⟩ := mem_candidates.mp hc
  exact ⟨ho, hm, hb⟩

/-- A request matching no operation reaches no handler. -/
theorem C03_route_none (ops : List Op) (m : Nat) (path : List Str)
    (h : ∀ o ∈ ops, ¬(o.method = m ∧ (matchSegs o.segs path).isSome = true)) :
    route ops m path = none :=
  (route_eq_none_iff ops m path).mpr <| List.eq_nil_iff_forall_not_mem.mpr fun o ho =>
    have ⟨h1, h2⟩ := mem_candidates.mp ho
    h o h1 h2

/-- A request matching some operation is dispatched. -/
theorem C03_route_complete (ops : List Op) (m : Nat) (path : List Str) (o : Op) (ho : o ∈ ops)
    (hm : o.method = m) (hs : (matchSegs o.segs path).isSome = true) :
    (route ops m path).isSome = true := by
  rw [Option.isSome_iff_ne_none, Ne, route_eq_none_iff]
  exact List.ne_nil_of_mem (mem_candidates.mpr ⟨ho, hm, hs⟩)

/-- A concrete path wins over a templated sibling that also matches, whichever is declared first. -/
theorem C03_static_wins (a b : Op) (m : Nat) (path : List Str)
    (ha : a.method = m ∧ (matchSegs a.segs path).isSome = true)
    (hb : b.method = m ∧ (matchSegs b.segs path).isSome = true)
    (hs : moreSpecific a.segs b.segs = true) (hns : moreSpecific b.segs a.segs = false) :
    (route [a, b] m path).map (·.1) = some a ∧ (route [b, a] m path).map (·.1) = some a := by
  obtain ⟨x, hx⟩ := Option.isSome_iff_exists.mp ha.2
  -- both are candidates in either order; the route goes to whichever `better` keeps
  have two (p q : Op) (hp : p.method = m ∧ (matchSegs p.segs path).isSome = true)
      (hq : q.method = m ∧ (matchSegs q.segs path).isSome = true) (hw : better p q = a) :
      (route [p, q] m path).map (·.1) = some a := by
    simp [route, candidates, List.filter, hp, hq, hw, hx]
  exact ⟨two a b ha hb (if_neg (Bool.eq_false_iff.mp hns)), two b a hb ha (if_pos hs)⟩

example : orderedParams [47, 97, 47, 123, 120, 125, 47, 123, 46, 121, 42, 125] = [[120], [121]] := by decide +kernel
example : (route [⟨0, [.static [97], .var [120]], 1⟩, ⟨0, [.static [97], .static [98]], 2⟩] 0 [[97], [98]]).map (·.1.id)
    = some 2 := by decide +kernel

end OapiVerif.Paths

namespace OapiVerif.Props.C03
open OapiVerif.Combine

/-! ### path-item and operation declarations of one parameter (`CombineOperationParameters`, Model/Combine.lean) -/

/-- **The operation's declaration wins.** When the two lists combine, the result is the operation's declarations
as given, followed by the path item's declarations of the (location, name) pairs the operation does not declare, in
order; and no (location, name) occurs twice. -/
theorem C03_operation_declaration_wins (pathItem operation combined : List Decl)
    (h : combine pathItem operation = .ok combined) :
    combined = operation ++ pathItem.filter (fun d => !hasKey operation d.key) ∧ (combined.map Decl.key).Nodup := by
  obtain ⟨rfl, hnd⟩ := (combine_eq_ok pathItem operation combined).mp h
  exact ⟨rfl, (nodup_combined pathItem operation).mpr hnd⟩

/-- In particular a declaration of the path item that the operation re-declares is not in the result. -/
theorem C03_overridden_declaration_absent (pathItem operation combined : List Decl)
    (h : combine pathItem operation = .ok combined) (d : Decl) (hd : d ∈ pathItem) (ho : hasKey operation d.key = true)
    (hnot : d ∉ operation) : d ∉ combined := by
  rw [((combine_eq_ok pathItem operation combined).mp h).1]
  simp [hnot, ho]

/-- Declarations that repeat nothing always combine (the function fails only on a repeated (location, name) inside one
of the two lists). -/
theorem C03_combine_total (pathItem operation : List Decl) (ho : (operation.map Decl.key).Nodup)
    (hp : ((pathItem.filter (fun d => !hasKey operation d.key)).map Decl.key).Nodup) :
    ∃ combined, combine pathItem operation = .ok combined :=
  ⟨_, (combine_eq_ok pathItem operation _).mpr ⟨rfl, ho, hp⟩⟩

/-- Non-vacuity: the path item declares `id` (path) and `limit` (query), the operation re-declares `limit` and adds a header. -/
example : combine [⟨0, [105, 100], 1⟩, ⟨1, [108], 2⟩] [⟨1, [108], 7⟩, ⟨2, [120], 8⟩] =
    .ok [⟨1, [108], 7⟩, ⟨2, [120], 8⟩, ⟨0, [105, 100], 1⟩] := by rfl

end OapiVerif.Props.C03
