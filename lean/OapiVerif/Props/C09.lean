import OapiVerif.Model.UnionJson
import OapiVerif.Proofs.Union
import OapiVerif.Proofs.JsonObj
/-!
C09 — Union types store, return and dispatch the right member.

Models: Model/Union.lean (the discriminator table and dispatch); Model/UnionJson.lean (the `MarshalJSON`/`UnmarshalJSON` templates
of a union with own properties, with and without additional properties, over Model/JsonObj.lean). Ties (harness c09): CORR — the `case` table
of the generated `ValueByDiscriminator` and the value written by every `From*` against `table` / `written`;
RUN — every generated From/As/Merge/Discriminator/ValueByDiscriminator method of every union type of the
compiled package called through reflection on generated member values, JSON round trips of unions with fixed
properties and additional properties, unions nested in properties, arrays and maps.
-/
namespace OapiVerif.Union

/-- Entries of different elements do not overwrite each other when no value is claimed by two elements. -/
def Disjoint (explicit : Mapping) (name : String → String) (elements : List String) : Prop :=
  ∀ r₁ ∈ elements, ∀ r₂ ∈ elements, ∀ k, k ∈ elementEntries explicit name r₁ → k ∈ elementEntries explicit name r₂ → r₁ = r₂

/-- A value that an element claims is dispatched to that element's Go type. -/
theorem dispatch_of_mem (explicit : Mapping) (name goType : String → String) (elements : List String)
    (hd : Disjoint explicit name elements) (k ref : String) (hr : ref ∈ elements)
    (hmem : k ∈ elementEntries explicit name ref) : dispatch (table explicit name goType elements) k = some (goType ref) := by
  rw [dispatch_table]
  exact Option.map_eq_some_iff.mpr ⟨ref, find?_eq_some_of_unique (List.mem_reverse.mpr hr) (decide_eq_true hmem) fun r' hr' hk =>
    hd r' (List.mem_reverse.mp hr') ref hr k (of_decide_eq_true hk) hmem, rfl⟩

/-- Every explicit value whose reference is an element of the union is in the table with that element's Go
type — also when several values designate one schema. -/
theorem C09_every_mapped_value_dispatches (explicit : Mapping) (name goType : String → String) (elements : List String)
    (hd : Disjoint explicit name elements) (k ref : String) (hk : (k, ref) ∈ explicit) (hr : ref ∈ elements) :
    dispatch (table explicit name goType elements) k = some (goType ref) :=
  dispatch_of_mem explicit name goType elements hd k ref hr (mem_elementEntries name hk)

/-- An element no explicit value designates is reachable under its schema name. -/
theorem C09_implicit_name_dispatches (explicit : Mapping) (name goType : String → String) (elements : List String)
    (hd : Disjoint explicit name elements) (ref : String) (hr : ref ∈ elements) (hn : ∀ k, (k, ref) ∉ explicit) :
    dispatch (table explicit name goType elements) (name ref) = some (goType ref) :=
  dispatch_of_mem explicit name goType elements hd _ ref hr (elementEntries_unmapped name hn ▸ List.mem_singleton_self _)

/-- Any other value is an error: a value is dispatched only if some element claims it. -/
theorem C09_unknown_value_is_error (explicit : Mapping) (name goType : String → String) (elements : List String)
    (v : String) (h : ∀ r ∈ elements, v ∉ elementEntries explicit name r) :
    dispatch (table explicit name goType elements) v = none := by
  rw [dispatch_table, List.find?_eq_none.mpr fun r hr => by simpa using h r (List.mem_reverse.mp hr)]
  rfl

/-- What `From<T>` writes is a value mapped to `T`. -/
theorem C09_from_writes_a_mapped_value (t : List (String × String)) (sortedKeys : List String) (ty v : String)
    (h : written t sortedKeys ty = some v) : dispatch t v = some ty := by
  unfold written at h
  have := List.mem_of_getLast? h
  simp only [List.mem_filter, decide_eq_true_eq] at this
  exact this.2

/-- Before the repair only one of several values designating a schema reached the table (reproduced on the
real generator together with its run-to-run variation; `fixed:`). With the first designating value only: -/
def elementEntriesOld (explicit : Mapping) (name : String → String) (ref : String) : List String :=
  match (explicit.filter (·.2 = ref)).map (·.1) with
  | [] => [name ref]
  | k :: _ => [k]

theorem C09_many_to_one_witness :
    ∃ (explicit : Mapping) (k ref : String), (k, ref) ∈ explicit ∧ k ∉ elementEntriesOld explicit id ref :=
  ⟨[("cat", "Cat"), ("kitten", "Cat")], "kitten", "Cat", by decide +kernel⟩

example : table [("cat", "#/Cat"), ("kitten", "#/Cat"), ("dog", "#/Dog")] (fun r => (r.drop 2).toString) (fun r => (r.drop 2).toString)
    ["#/Cat", "#/Dog", "#/Bird"] = [("cat", "Cat"), ("kitten", "Cat"), ("dog", "Dog"), ("Bird", "Bird")] := by decide +kernel

end OapiVerif.Union

namespace OapiVerif.UnionJson
open JsonObj

variable {V : Type}

/-- **Marshalling yields the stored member's JSON merged with the union's own fixed properties**: a member name is looked up
among the own properties that are written (set fields, and nil fields of properties that are not optional) and, when it
is not one of them, in the stored member. For every union value and every member name. -/
theorem C09_marshal_is_member_overlaid_with_own (zero : V) (fs : List Field) (u : U V) (hf : (fs.map (·.name)).Nodup)
    (k : String) :
    lookup (marshal zero fs u) k = (lookup (declaredOut zero fs u.own) k).or (lookup (u.raw.getD []) k) :=
  lookup_foldl_insert _ _ ((declaredOut_keys_sublist zero fs u.own).nodup hf) k

/-- a name that is no own property comes from the stored member alone -/
theorem C09_marshal_keeps_member_names (zero : V) (fs : List Field) (u : U V) (hf : (fs.map (·.name)).Nodup)
    (k : String) (hk : k ∉ fs.map (·.name)) : lookup (marshal zero fs u) k = lookup (u.raw.getD []) k := by
  rw [C09_marshal_is_member_overlaid_with_own zero fs u hf k,
    show lookup (declaredOut zero fs u.own) k = none from
      Assoc.get_of_not_mem_keys fun h => hk ((declaredOut_keys_sublist zero fs u.own).subset h)]
  rfl

/-- **Unmarshal followed by marshal is lossless**: every member of a valid instance (the own properties that are not
optional are present) comes back with its value, nothing is invented. -/
theorem C09_unmarshal_marshal_lossless (zero : V) (fs : List Field) (o : List (String × V))
    (hf : (fs.map (·.name)).Nodup) (hv : Valid fs o) (k : String) :
    lookup (marshal zero fs (unmarshal fs o)) k = lookup o k := by
  rw [C09_marshal_is_member_overlaid_with_own zero fs _ hf k]
  show (lookup (declaredOut zero fs (fs.map fun f => lookup o f.name)) k).or (lookup o k) = lookup o k
  rw [lookup_declaredOut_valid zero fs o hf hv k]
  cases declaredName fs k <;> cases lookup o k <;> rfl

/-- After `From<Member>` on a fresh union value: the member's JSON, except that an own property which is not optional (a
required one, nullable or not) is written with its nil/zero encoding over the member's value of that name. -/
theorem C09_from_member_then_marshal (zero : V) (fs : List Field) (member : List (String × V))
    (hf : (fs.map (·.name)).Nodup) (k : String) :
    lookup (marshal zero fs (fromMember (fresh fs) member)) k =
      match fs.find? (·.name = k) with
      | some f => if f.optNil then lookup member k else some zero
      | none => lookup member k := by
  rw [C09_marshal_is_member_overlaid_with_own zero fs _ hf k]
  show (lookup (declaredOut zero fs (fs.map fun f => lookup ([] : List (String × V)) f.name)) k).or (lookup member k) = _
  rw [lookup_declaredOut zero fs [] hf k]
  cases fs.find? (·.name = k) with
  | none => rfl
  | some f => obtain ⟨_, opt⟩ := f; cases opt <;> rfl

/-- **A union with additional properties**: unmarshal followed by marshal gives every member of a valid instance back with
its value, provided the additional-properties type represents the members it captures exactly (`re v = v` for the members that
are not own properties — the stored member's own fields are among them); and no additional property carries the name of an own
property. -/
theorem C09_union_additional_lossless (re : V → V) (zero : V) (fs : List Field) (o : List (String × V))
    (hf : (fs.map (·.name)).Nodup) (ho : (o.map (·.1)).Nodup) (hv : Valid fs o)
    (hre : ∀ kv ∈ o, declaredName fs kv.1 = false → re kv.2 = kv.2) (k : String) :
    lookup (marshalA zero fs (unmarshalA re fs o)) k = lookup o k ∧
    ∀ kv ∈ (unmarshalA re fs o).addl, declaredName fs kv.1 = false := by
  -- `re` changes nothing among the captured members
  have hmap : (unmarshalA re fs o).addl = o.filter fun kv => !declaredName fs kv.1 :=
    (List.map_congr_left fun kv h => by
      have := List.mem_filter.mp h
      rw [hre kv this.1 ((Bool.not_eq_true' _).mp this.2)]; rfl).trans (List.map_id _)
  -- the second claim needs no hypothesis: whatever `re` does to the values, the captured names are the filter's
  refine ⟨?_, fun kv h => by
    obtain ⟨e, he, rfl⟩ := List.mem_map.mp h
    exact (Bool.not_eq_true' _).mp (List.mem_filter.mp he).2⟩
  show lookup ((unmarshalA re fs o).addl.foldl _ (marshal zero fs (unmarshal fs o))) k = _
  rw [hmap, lookup_foldl_insert_undeclared fs o _ ho, C09_unmarshal_marshal_lossless zero fs o hf hv k, Option.or_self,
    ite_self]

/-- The recorded finding as a statement about the model (replayed on the code: `lossless-big-integer:…:addl=true`): a member
the additional-properties type does not represent exactly — an integer beyond 2^53 decoded into `interface{}` — comes back
changed, even when it is a declared property of the stored member. -/
theorem C09_union_additional_inexact_member_witness :
    let re : String → String := fun v => if v = "9007199254740993" then "9007199254740992" else v
    marshalA "null" [⟨"meta", true⟩] (unmarshalA re [⟨"meta", true⟩] [("kind", "\"BigCat\""), ("size", "9007199254740993"), ("meta", "\"m\"")]) =
      [("kind", "\"BigCat\""), ("size", "9007199254740992"), ("meta", "\"m\"")] := by decide +kernel

/-- non-vacuity: own properties `meta` (optional) and `name` (required, nullable) over a stored cat -/
example : marshal "null" [⟨"meta", true⟩, ⟨"name", false⟩] (fromMember (fresh [⟨"meta", true⟩, ⟨"name", false⟩]) [("kind", "\"cat\""), ("name", "\"Tom\"")]) =
    [("kind", "\"cat\""), ("name", "null")] := by decide +kernel

end OapiVerif.UnionJson
