import OapiVerif.Proofs.JsonObj
import OapiVerif.Proofs.GoJson
/-!
C07 — Generated models round-trip JSON without loss.

Models: Model/GoJson.lean — the fragment of encoding/json the generated types rely on (struct fields with json
names and omitempty, pointers, slices, string-keyed maps, booleans, integers, strings), with `decode`/`encode`
and the validity predicate; Model/JsonObj.lean — the additional-properties template on one object with opaque
members. Ties (harness c07): CORR — `json.Unmarshal`/`json.Marshal` on Go types built with reflect from seeded
type descriptions against `decode`/`encode` on seeded JSON values (valid, canonical and not, and junk);
RUN — seeded schemas compiled (models only), schema-directed valid instances incl. boundary values decoded into
the generated types and encoded again, semantic JSON equality. Floats and the format types (Date, UUID, …) are RUN only; the
custom (un)marshallers of unions are modelled under C09 (Model/UnionJson.lean).
-/
namespace OapiVerif.JsonObj
variable {V : Type}

/-- Members captured as additional properties never carry a declared name. -/
theorem C07_additional_never_shadows (fs : List Field) (o : List (String × V)) :
    ∀ kv ∈ (decode fs o).addl, declaredName fs kv.1 = false := by
  intro kv h
  simp only [decode, List.mem_filter, Bool.not_eq_true'] at h
  exact h.2

/-- Decoding an object and encoding it again gives the same members with the same values: every declared
and every additional member is preserved, nothing is invented. -/
theorem C07_object_roundtrip (zero : V) (fs : List Field) (o : List (String × V))
    (hf : (fs.map (·.name)).Nodup) (ho : (o.map (·.1)).Nodup) (hv : Valid fs o) (k : String) :
    lookup (encode zero fs (decode fs o)) k = lookup o k := by
  unfold encode decode
  rw [lookup_foldl_insert_undeclared fs o _ ho, lookup_declaredOut_valid zero fs o hf hv]
  cases declaredName fs k <;> cases lookup o k <;> rfl

/-- Outside `Valid`: a missing member that Go cannot represent as absent comes back as a zero value —
the model says so explicitly (this is the "invented member" the harness looks for). -/
theorem C07_missing_required_is_invented (zero : V) (f : Field) (hn : f.optNil = false) :
    lookup (encode zero [f] (decode [f] ([] : List (String × V)))) f.name = some zero := by
  obtain ⟨n, _⟩ := f; subst hn
  exact (lookup_cons (n, zero) [] n).trans (if_pos rfl)  -- by definition the member is written as `(n, zero)`

/-- Through `Set` an additional entry with a declared name can exist; `MarshalJSON` then lets it overwrite
the declared member (stated as the template behaves; never reached by decode, see `C07_additional_never_shadows`). -/
theorem C07_set_can_shadow (zero v w : V) (f : Field) :
    lookup (encode zero [f] ⟨[some v], [(f.name, w)]⟩) f.name = some w :=
  (lookup_insert _ f.name w f.name).trans (if_pos rfl)

example : lookup (encode 0 [⟨"a", false⟩, ⟨"b", true⟩] (decode [⟨"a", false⟩, ⟨"b", true⟩] [("x", 7), ("a", 1)])) "x" = some 7 := by decide +kernel

end OapiVerif.JsonObj

namespace OapiVerif.GoJson

/-- Every JSON value that a well-formed Go type represents exactly (see `valid`) decodes into the type and
encodes back to itself: nothing lost, invented or changed, at any nesting depth of structs, pointers, slices
and maps. -/
theorem C07_json_roundtrip (t : GoTy) (j : JVal) (hw : wf t = true) (hv : valid t j = true) :
    ∃ v, decode t j = some v ∧ encode t v = some j := roundtrip t j hw hv

/-- The generator's member rules (C08) make `valid` the natural notion: an optional member is a pointer with
omitempty, and any non-null value of it is kept on the way back. -/
theorem C07_optional_member_kept (t : GoTy) (j : JVal) (hj : j ≠ .null) : keptByOmitempty (.ptr t) j = true :=
  kept_ptr hj

/-- The documented difference: an absent optional nullable member (a pointer without omitempty) reappears as null. -/
theorem C07_absent_nullable_reappears_as_null (n : String) (t : GoTy) :
    (decode (.struct (.cons n false (.ptr t) .nil)) (.obj [])).bind (encode (.struct (.cons n false (.ptr t) .nil))) =
      some (.obj [(n, .null)]) := rfl

/-- … and its converse, which is not among the permitted differences: an explicit null of an optional member
(pointer with omitempty) is dropped (recorded in known-findings.txt for the default configuration). -/
theorem C07_explicit_null_dropped_witness :
    (decode (.struct (.cons "a" true (.ptr .string) .nil)) (.obj [("a", .null)])).bind
      (encode (.struct (.cons "a" true (.ptr .string) .nil))) = some (.obj []) := rfl

/-- A non-pointer member under omitempty loses its zero value — why required members must not be tagged
omitempty (the class of the seeded change on required read-only members). -/
theorem C07_omitempty_value_lost_witness :
    (decode (.struct (.cons "n" true int64 .nil)) (.obj [("n", .num 0)])).bind
      (encode (.struct (.cons "n" true int64 .nil))) = some (.obj []) := rfl

/-- Integer members: a number is accepted exactly when it lies in the range of the member's Go type, and then it is
stored and written back unchanged — for every width and signedness (`.int lo hi`). -/
theorem C07_integer_in_range_iff (lo hi n : Int) :
    (decode (.int lo hi) (.num n)).isSome = decide (lo ≤ n ∧ n ≤ hi) ∧
    (lo ≤ n → n ≤ hi → (decode (.int lo hi) (.num n)).bind (encode (.int lo hi)) = some (.num n)) := by
  refine ⟨?_, fun h1 h2 => by rw [(Rep.int ⟨h1, h2⟩).dec]; rfl⟩
  by_cases h : lo ≤ n ∧ n ≤ hi
  · rw [(Rep.int h).dec, decide_eq_true h]; rfl
  · rw [show decode (.int lo hi) (.num n) = none from if_neg h, decide_eq_false h]; rfl

/-- A member whose Go type is narrower than the schema's format loses instances of the schema: a `uint64` member
mapped to `int64` rejects 2^63, which `uint64` keeps (the class of the seeded change on integer formats). -/
theorem C07_narrowed_integer_rejects_witness :
    decode int64 (.num 9223372036854775808) = none ∧
    (decode uint64 (.num 9223372036854775808)).bind (encode uint64) = some (.num 9223372036854775808) ∧
    decode uint8 (.num 256) = none ∧ decode int8 (.num (-129)) = none ∧ decode uint32 (.num (-1)) = none :=
  ⟨rfl, rfl, rfl, rfl, rfl⟩

/-- `[]uint8` is outside the fragment: Go's `uint8` is `byte`, and encoding/json writes a byte slice as a base64
string — an array of `format: uint8` integers comes back as a string (found by the correspondence run; replayed on
the generated models and recorded in known-findings.txt). Every other slice type is inside. -/
theorem C07_byte_slice_outside_fragment :
    wf (.slice uint8) = false ∧ wf (.slice uint16) = true ∧ wf (.slice int8) = true ∧ wf (.slice (.slice uint8)) = false := by
  decide +kernel

/-- "Nothing is invented": what a valid instance decodes to is a value of the generated type and a stable one — the
value the encoder turns back into the instance (`C07_json_roundtrip`) and that survives a further Marshal/Unmarshal
(`C13_json_body_decodes_to_value`); the two directions are inverse to each other on valid instances. -/
theorem C07_decoded_value_is_typed_and_stable (t : GoTy) (j : JVal) (v : GoVal) (hw : wf t = true) (hv : valid t j = true)
    (hd : decode t j = some v) : hasTy t v = true ∧ stable t v = true ∧ encode t v = some j :=
  have h := rep_of_decode hw hv hd
  ⟨h.typed, h.stab, h.enc⟩

/-- … and what the encoder writes for a stable value of the type is a valid canonical instance: `decode` and `encode`
are a bijection between the valid instances of a well-formed type and its stable values. -/
theorem C07_encoded_value_is_valid_instance (t : GoTy) (v : GoVal) (hw : wf t = true) (ht : hasTy t v = true)
    (hs : stable t v = true) : ∃ j, encode t v = some j ∧ valid t j = true ∧ decode t j = some v :=
  (rep_of_stable t v hw ht hs).imp fun _ h => ⟨h.enc, h.ok, h.dec⟩

/-- The validity predicate is met by the extremes of every width (non-vacuity of `C07_json_roundtrip` on integers). -/
example : valid uint64 (.num 18446744073709551615) = true ∧ valid int64 (.num (-9223372036854775808)) = true ∧
    wf uint64 = true ∧ wf int8 = true := by decide +kernel

example : valid (.struct (.cons "id" false int64 (.cons "tags" true (.ptr (.slice .string)) .nil)))
    (.obj [("id", .num 7), ("tags", .arr [.str "a"])]) = true := by decide +kernel

end OapiVerif.GoJson
