import OapiVerif.Proofs.Names
import OapiVerif.Gen.C01
import OapiVerif.Proofs.Comment
import OapiVerif.Proofs.RefPath
import OapiVerif.Proofs.Assoc
import OapiVerif.Proofs.TypeDedup
import OapiVerif.Proofs.OpId
/-!
C01 — Generated code compiles, for every supported spec and configuration.

What a proof can carry here is the naming layer (Model/Names.lean): the identifiers the generator
derives from arbitrary spellings. That the whole output type-checks against the framework libraries is
not expressible in any model available; it is the compile gate of the harness (RUN, sampled) and the
evidence says so — the property is claimed PARTIAL.
Tie: CORR of every function of Model/Names.lean with pkg/codegen/utils.go on seeded names (all
scripts, every separator, keywords, Nl/No numbers), FACT `Gen/C01.lean` (the real IsGoKeyword /
IsPredeclaredGoIdentifier executed on every Go keyword and every universe name).
Further parts of the generator whose output must compile, each in its own namespace below and tied by its own CORR:
descriptions as comments (Model/Comment.lean), references into other documents (Model/RefPath.lean), `GenerateTypes` and
`constructImportMapping` (Model/TypeDedup.lean), the operation identifiers (Model/OpId.lean).
-/
namespace OapiVerif.Names

/-- `IsValidGoIdentity` of the real code: not (all runes valid ∧ keyword), and not predeclared. -/
def isValidGoIdentity (U : Uni) (s : Str) : Bool :=
  !((s.zipIdx.all fun (c, i) => validRune U i c) && goKeywords.contains s) && !predeclared.contains s

/-- `SanitizeGoIdentity` never reaches its `panic("here is a bug")`: the result always passes
`IsValidGoIdentity`, whatever the input and whatever the Unicode tables. -/
theorem C01_sanitize_never_panics (U : Uni) (s : Str) : isValidGoIdentity U (sanitizeGoIdentity U s) = true := by
  obtain ⟨h1, h2⟩ := sanitize_not_word U s
  rw [isValidGoIdentity, h1, h2]; simp

/-- Every rune of a sanitised name is one the sanitiser considers valid at its position. -/
theorem C01_sanitize_runes (U : Uni) (s : Str) :
    ∀ c ∈ (s.zipIdx.map fun (c, i) => if validRune U i c then c else 95), (U.isLetter c || c == 95 || U.isNumber c) = true := by
  intro c hc
  obtain ⟨⟨x, i⟩, _, rfl⟩ := List.mem_map.mp hc
  dsimp only
  split
  · exact validRune_class U i x ‹_›
  · simp

/-- `ToCamelCase` emits only runes the tables call upper case, digit, lower case, or the upper-case
image of a lower-case rune: separators and every other symbol disappear. -/
theorem C01_camel_runes (U : Uni) : ∀ (s : Str) (cap : Bool), ∀ c ∈ camelGo U cap s,
    U.isUpper c = true ∨ U.isDigit c = true ∨ U.isLower c = true ∨ ∃ v, U.isLower v = true ∧ c = U.toUpper v := by
  intro s
  induction s with
  | nil => exact fun _ _ h => nomatch h
  | cons v rest ih =>
    intro cap c hc
    -- `c` is `v` kept as upper case, as a digit, as lower case (capitalised or not), or comes from the rest
    simp only [camelGo, List.mem_append, List.mem_ite_nil_right, List.mem_singleton] at hc
    rcases hc with ((⟨h, rfl⟩ | ⟨h, rfl⟩) | ⟨h, rfl⟩) | h
    · exact .inl h
    · exact .inr (.inl h)
    · cases cap
      · exact .inr (.inr (.inl h))
      · exact .inr (.inr (.inr ⟨v, h, rfl⟩))
    · exact ih _ c h

/-- `typeNamePrefix` of an empty name is "Empty"; a result is never produced from nothing. -/
theorem C01_empty_name_prefixed (U : Uni) (norm : Str → Str) :
    schemaNameToTypeName U norm [] = w "Empty" ++ norm [] := rfl

/-- A name starting with a digit gets the prefix N (so the type name cannot start with a digit). -/
theorem C01_leading_digit_prefixed (U : Uni) (d : Nat) (rest : Str) (hd : U.isDigit d = true)
    (h36 : d ≠ 36) (hp : prefixWordL d = none) :
    typeNamePrefix U (d :: rest) = w "N" := by
  simp [typeNamePrefix, typeNamePrefixGo, h36, hp, hd]

/-- FACT: the keyword / predeclared lists of the model are the real predicates on every Go keyword and
every name of the universe scope. -/
theorem C01_word_tables : ∀ r ∈ Gen.C01.wordRows,
    (goKeywords.contains r.1 == r.2.1 && predeclared.contains r.1 == r.2.2) = true := by
  decide +kernel

/-- Negative finding (full statement: "the sanitised name is a valid Go identifier"). Go identifiers
admit only decimal digits (Nd) after the first letter, while the sanitiser keeps every rune
`unicode.IsNumber` accepts; with Go's tables (isNumber '²' = true) the name "a²" is returned
unchanged and the output does not parse. Replayed as witness `security-scheme-name-with-superscript`. -/
theorem C01_superscript_witness (U : Uni) (hU : U.isNumber 178 = true) (ha : U.isLetter 97 = true)
    (hn : U.isNumber 97 = false) : sanitizeGoIdentity U [97, 178] = [97, 178] := by
  have h0 : validRune U 0 97 = true := by simp [validRune, ha, hn]
  have h1 : validRune U 1 178 = true := by simp [validRune, hU]
  obtain ⟨hk, hp⟩ := not_word [97, 178] 178 (by simp) (by omega)
  exact sanitize_eq_self U _ (by simp [List.zipIdx, h0, h1]) hk hp

example : toCamelCase asciiUni (w "get-http_pet ") = w "GetHttpPet" := by
  -- the kernel decodes a `String` literal in quadratic time; `toList_ofList` reads the characters off the literal
  unfold w; repeat rw [String.toList_ofList]
  decide +kernel
example : sanitizeGoIdentity asciiUni (w "type") = w "_type" := by decide +kernel
example : schemaNameToTypeName asciiUni (toCamelCase asciiUni) (w "1abc") = w "N1abc" := by decide +kernel

end OapiVerif.Names

namespace OapiVerif.Comment

/-- A description — any text: newlines of every kind, `*/`, quotes, Go code — never leaves its comment: what
`toGoComment` / `StringToGoComment` / `DeprecationComment` render is empty or a sequence of lines each beginning with `//`
(the type name that may stand in the first line has no newline). A `//` comment ends at the newline and nowhere else, so
nothing of the description is ever read as Go. -/
theorem C01_description_stays_in_comment (input prefx : Str) (hp : 10 ∉ prefx) :
    allCommented (comment input prefx) = true := by
  unfold comment
  split
  · rfl
  · exact trimTail_ok _ (startsComment_first _ _)
      (linesOk_append_of_no_nl _ _ (not_mem_first 10 prefx (by decide) (by decide) hp) (linesOk_body _))

/-- No carriage return survives (gofmt would otherwise see a different line structure than the compiler). -/
theorem C01_comment_has_no_carriage_return (input prefx : Str) (hp : 13 ∉ prefx) : 13 ∉ comment input prefx := by
  unfold comment
  split
  · simp
  · intro h
    rcases List.mem_append.mp (mem_trimTail h) with h | h
    · exact not_mem_first 13 prefx (by decide) (by decide) hp h
    · rcases mem_body _ _ h with h | h | h
      · exact not_cr_normalize _ h
      all_goals omega

/-- An empty or all-blank description gives no comment at all. -/
theorem C01_blank_description_no_comment (input prefx : Str) (h : input.all isSpace = true) : comment input prefx = [] := by
  simp [comment, h]

/-- Non-vacuity: a description that tries to close the comment and open code. -/
example : comment [97, 13, 10, 42, 47, 10, 102, 117, 110, 99, 10] [84] =
    [47, 47, 32, 84, 32, 97, 10, 47, 47, 32, 42, 47, 10, 47, 47, 32, 102, 117, 110, 99] := by decide +kernel

end OapiVerif.Comment

namespace OapiVerif.RefPath

/-- Last clause of C01: the type of a reference into another document depends on that document's name, the import
mapping and the naming function only — not on what the referring document itself declares. -/
theorem C01_remote_reference_ignores_local_components (env env' : Env) (c : Nat) (t : Str) (hc : c ≠ hash)
    (himp : env.imports = env'.imports) (htn : env.typeName = env'.typeName) :
    refPathToGoType env (c :: t) = refPathToGoType env' (c :: t) :=
  remote_congr env env' c t false hc himp fun frag => fragmentType_no_consult env env' frag false htn

/-- A reference into another document that is rendered is a type of the package mapped to that document. -/
theorem C01_remote_reference_is_package_qualified (env : Env) (c : Nat) (t out : Str) (hc : c ≠ hash)
    (h : refPathToGoType env (c :: t) = .ok out) :
    ∃ remote pkg u, (remote, pkg) ∈ env.imports ∧ out = pkg ++ [dot] ++ u := by
  obtain ⟨remote, _, pkg, u, _, hl, _, rfl⟩ := remote_ok env c t out false hc h
  exact ⟨remote, pkg, u, Assoc.mem_of_get hl, rfl⟩

def s (x : String) : Str := x.toList.map Char.toNat

/-- the environment of the witness: this document has a component Pet renamed to LocalPet; common.json is mapped -/
def exEnv : Env :=
  { renamed := fun sec key => if sec = s "schemas" ∧ key = s "Pet" then some (s "LocalPet") else none,
    imports := [(s "common.json", s "externalRef0")],
    typeName := id }

/-- Pre-repair witness (replayed on the code: multi-document feature `same-name`, repaired in /repo): the reference was
renamed after the local component and pointed at a type the other package does not declare. -/
theorem C01_remote_reference_old_witness :
    refPathToGoTypeOld exEnv (s "common.json#/components/schemas/Pet") = .ok (s "externalRef0.LocalPet") ∧
    refPathToGoType exEnv (s "common.json#/components/schemas/Pet") = .ok (s "externalRef0.Pet") ∧
    refPathToGoType exEnv (s "#/components/schemas/Pet") = .ok (s "LocalPet") ∧
    refPathToGoType exEnv (s "other.json#/components/schemas/Pet") = .error .unmapped ∧
    refPathToGoType exEnv (s "#/components/schemas") = .error .depth ∧
    refPathToGoType exEnv (s "common.json#/Pet") = .ok (s "externalRef0.Pet") := by
  unfold s; repeat rw [String.toList_ofList]
  decide +kernel

end OapiVerif.RefPath

namespace OapiVerif.TypeDedup

/-- `GenerateTypes`, success: **every type name is declared once** (two declarations of one name do not compile), the
declarations are exactly the collected ones (none dropped, none invented) and they keep their order. For every list of
collected definitions. -/
theorem C01_types_declared_once (ts out : List TD) (h : generateTypes ts = .ok out) :
    (out.map (·.name)).Nodup ∧ (∀ t, t ∈ out ↔ t ∈ ts) ∧ out.Sublist ts := by
  obtain ⟨h1, h2, ho⟩ := generateTypes_ok h
  exact ⟨h1, h2, ho ▸ firsts_sublist ts []⟩

theorem C01_types_error_names_the_clash (ts : List TD) (e : Str) (h : generateTypes ts = .error e) :
    ∃ a ∈ ts, ∃ b ∈ ts, a.name = e ∧ b.name = e ∧ a.body ≠ b.body := by
  obtain ⟨a, b, ha, hb, hae, hbe, hne⟩ := go_err ts [] e h
  exact ⟨a, by simpa using ha, b, hb, hae, hbe, hne⟩

/-- `GenerateTypes`, refusal: exactly when two collected definitions share a name and differ (the error names it);
equal definitions under one name are folded, never refused. -/
theorem C01_types_conflict_rejected_iff (ts : List TD) :
    (∃ e, generateTypes ts = .error e) ↔ ∃ a ∈ ts, ∃ b ∈ ts, a.name = b.name ∧ a.body ≠ b.body := by
  constructor
  · rintro ⟨e, h⟩
    obtain ⟨a, ha, b, hb, hae, hbe, hne⟩ := C01_types_error_names_the_clash ts e h
    exact ⟨a, ha, b, hb, hae.trans hbe.symm, hne⟩
  · rintro ⟨a, ha, b, hb, hn, hne⟩
    exact exists_error_of_not_ok fun out hr =>
      have ⟨h1, h2, _⟩ := C01_types_declared_once ts out hr
      hne (congrArg TD.body (inj_of_nodup_map h1 ((h2 a).mpr ha) ((h2 b).mpr hb) hn))

/-- The methods of a type (additional properties, union accessors) are generated for **exactly the declared types that
need them, once each, in the order of the declarations**: the boilerplate generators and `GenerateTypes` take the same
definition of every name. (A method declared twice, or for a type that is not declared, does not compile.) -/
theorem C01_boilerplate_follows_declarations (needs : Nat → Bool) (ts out : List TD) (h : generateTypes ts = .ok out) :
    boilerplate needs ts = out.filter fun t => needs t.body := by
  rw [(generateTypes_ok h).2.2]; rfl

/-- Pre-repair witness (replayed on the code: C01 witnesses `shared-type-name-union`, `…-union-additional-properties`,
repaired in /repo): the union generators took every collected definition, so one inline union under one `x-go-type-name` in
two places was declared once and given its methods twice. -/
theorem C01_union_boilerplate_old_witness :
    generateTypes [⟨[76], 1⟩, ⟨[79], 2⟩, ⟨[76], 1⟩] = .ok [⟨[76], 1⟩, ⟨[79], 2⟩] ∧
    boilerplateOld (· == 1) [⟨[76], 1⟩, ⟨[79], 2⟩, ⟨[76], 1⟩] = [⟨[76], 1⟩, ⟨[76], 1⟩] ∧
    boilerplate (· == 1) [⟨[76], 1⟩, ⟨[79], 2⟩, ⟨[76], 1⟩] = [⟨[76], 1⟩] := by decide +kernel

/-- non-vacuity: a repeated equal definition is folded, a differing one refused -/
example : generateTypes [⟨[80], 1⟩, ⟨[81], 2⟩, ⟨[80], 1⟩] = .ok [⟨[80], 1⟩, ⟨[81], 2⟩] ∧
    generateTypes [⟨[80], 1⟩, ⟨[81], 2⟩, ⟨[80], 3⟩] = .error [80] := by decide +kernel

/-- `constructImportMapping`: every document of the mapping gets a package name, and **two documents get the same name
exactly when they are mapped to the same package path** — one import per package, no two packages under one name
(either would not compile). For every mapping. -/
theorem C01_import_names_distinct_iff_paths (m : List (Str × Str)) :
    (∀ d p, (d, p) ∈ m → ∃ n, (d, n, p) ∈ construct m) ∧
    (∀ d₁ n₁ p₁ d₂ n₂ p₂, (d₁, n₁, p₁) ∈ construct m → (d₂, n₂, p₂) ∈ construct m → (n₁ = n₂ ↔ p₁ = p₂)) := by
  refine ⟨fun d p h => (pkgName_some m d p h).imp fun n hn => mem_construct.mpr ⟨h, hn⟩, ?_⟩
  intro d₁ n₁ p₁ d₂ n₂ p₂ h1 h2
  have a := (mem_construct.mp h1).2
  have b := (mem_construct.mp h2).2
  exact ⟨fun e => pkgName_inj m p₁ p₂ n₁ a (e ▸ b), fun e => Option.some.inj (a.symm.trans (e ▸ b))⟩

def s (x : String) : Str := x.toList.map Char.toNat

/-- non-vacuity: the package names follow the ascending order of the paths (`a/pkg` 0, `x/pkg` 1, `x/zzz` 2), and the two
documents of `x/pkg` share one -/
example : construct [(s "b.yaml", s "x/pkg"), (s "a.yaml", s "x/pkg"), (s "c.yaml", s "x/zzz"), (s "d.yaml", s "a/pkg")] =
    [(s "b.yaml", s "externalRef1", s "x/pkg"), (s "a.yaml", s "externalRef1", s "x/pkg"),
     (s "c.yaml", s "externalRef2", s "x/zzz"), (s "d.yaml", s "externalRef0", s "a/pkg")] := by
  unfold s; repeat rw [String.toList_ofList]
  decide +kernel

end OapiVerif.TypeDedup

namespace OapiVerif.OpId

/-- **No two operations of a generated file share an identifier**: when the check of `OperationDefinitions` lets a document
through, the identifiers of its operations are pairwise distinct; when it refuses, the identifier it names belongs to two of
them. For every list of identifiers. -/
theorem C01_operation_ids_distinct_or_refused (ids : List Str) :
    (checkIds ids [] = .ok () → ids.Nodup) ∧ (∀ e, checkIds ids [] = .error e → 2 ≤ ids.count e) :=
  ⟨fun h => ((checkIds_eq_ok ids []).mp h).1, fun e he => (checkIds_error ids [] e he).2.resolve_left (by simp)⟩

/-- The input of the repaired defect (C01 witness `two-operations-one-default-id`, replayed on the code): `GET /a/b` and
`GET /a-b` have one default id whatever the name normaliser does afterwards, and so have paths that differ in empty segments. -/
theorem C01_default_id_collision_witness :
    rawDefaultId [71, 69, 84] [47, 97, 47, 98] = rawDefaultId [71, 69, 84] [47, 97, 45, 98] ∧
    rawDefaultId [71, 69, 84] [47, 97, 47, 98] = rawDefaultId [71, 69, 84] [47, 97, 47, 47, 98, 47] ∧
    checkIds [[71], [72], [71]] [] = .error [71] := by decide +kernel

end OapiVerif.OpId
