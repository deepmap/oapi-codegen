import OapiVerif.Proofs.Assoc
import OapiVerif.Gen.C02
import OapiVerif.Proofs.SchemaOrder
import OapiVerif.Proofs.TypeDedup
/-!
C02 — Generation is deterministic.

Model: Model/Walks.lean — a Go map is an association list with distinct keys, its iteration order any
permutation. Tie: FACT `Gen/C02.lean` — every `range` over a map-typed expression in pkg/codegen
(go/types) with its idiom class; RUN — every generated document is generated repeatedly in one process
and in fresh processes, and from textual permutations of its map keys; bytes (or errors) compared.
Below also `SortedSchemaKeys` (Model/SchemaOrder.lean) and the package names of an import mapping (Model/TypeDedup.lean).
-/
namespace OapiVerif.Walks

/-- `SortedMapKeys` does not depend on the iteration order of the map. -/
theorem C02_sortedKeys_perm {α} (m₁ m₂ : List (Key × α)) (h : m₁.Perm m₂) :
    sortedKeys m₁ = sortedKeys m₂ :=
  mergeSort_perm_eq kle_trans kle_total (h.map _) fun a _ b _ => kle_antisymm a b

/-- A walk through `SortedMapKeys` emits the same sequence whatever the iteration order. -/
theorem C02_sortedEmit_deterministic {α β} (f : Key → α → β) (m₁ m₂ : List (Key × α)) (h : m₁.Perm m₂)
    (hnd : (m₁.map (·.1)).Nodup) : sortedEmit f m₁ = sortedEmit f m₂ := by
  unfold sortedEmit
  rw [C02_sortedKeys_perm m₁ m₂ h]
  congr 1
  funext k
  exact congrArg (·.map (f k)) (Assoc.get_perm h hnd k)

/-- Counters and any/all flags do not depend on the order. -/
theorem C02_count_deterministic {α} (p : Key → α → Bool) (m₁ m₂ : List (Key × α)) (h : m₁.Perm m₂) :
    countIf p m₁ = countIf p m₂ := (h.filter _).length_eq

/-- A first-match walk is deterministic when at most one entry matches. -/
theorem C02_firstMatch_unique {α β} (p : Key → α → Bool) (f : Key → α → β) (m₁ m₂ : List (Key × α))
    (h : m₁.Perm m₂) (huniq : ∀ a ∈ m₁, ∀ b ∈ m₁, p a.1 a.2 = true → p b.1 b.2 = true → a = b) :
    firstMatch p f m₁ = firstMatch p f m₂ := by
  unfold firstMatch
  rw [find?_perm_of_unique h huniq]

/-- Negative: an unsorted append and a first match among several matching entries do depend on the order. -/
theorem C02_appendUnsorted_witness :
    ∃ (m₁ m₂ : List (Key × Nat)), m₁.Perm m₂ ∧ appendUnsorted (fun _ v => v) m₁ ≠ appendUnsorted (fun _ v => v) m₂ :=
  ⟨[([1], 1), ([2], 2)], [([2], 2), ([1], 1)], List.Perm.swap _ _ _, by decide +kernel⟩

theorem C02_firstMatch_witness :
    ∃ (m₁ m₂ : List (Key × Nat)), m₁.Perm m₂ ∧
      firstMatch (fun _ v => v == 7) (fun k _ => k) m₁ ≠ firstMatch (fun _ v => v == 7) (fun k _ => k) m₂ :=
  ⟨[([1], 7), ([2], 7)], [([2], 7), ([1], 7)], List.Perm.swap _ _ _, by decide +kernel⟩

/-- FACT: every `range` over a map in pkg/codegen is of an order-independent idiom, or one of the
recorded order-sensitive sites. -/
theorem C02_sites_table : ∀ s ∈ Gen.C02.sites, siteOk s = true := by decide +kernel

/-! Non-vacuity: a two-entry map, its other iteration order, distinct keys. -/
example : ([([98], 1), ([97], 2)] : List (Key × Nat)).Perm [([97], 2), ([98], 1)] := List.Perm.swap _ _ _
example : (([([98], 1), ([97], 2)] : List (Key × Nat)).map (·.1)).Nodup := by decide +kernel

end OapiVerif.Walks

namespace OapiVerif.SchemaOrder

/-- `SortedSchemaKeys` — the order in which component schemas and the properties of an object are declared, `x-order`
included — does not depend on the iteration order of the dictionary: any two hand-out orders of the same entries give
the same key sequence. -/
theorem C02_schema_keys_perm_invariant (m₁ m₂ : List Entry) (h : m₁.Perm m₂) (hnd : (m₁.map (·.key)).Nodup) :
    sortedSchemaKeys m₁ = sortedSchemaKeys m₂ := by
  unfold sortedSchemaKeys
  rw [sortedEntries_perm_invariant m₁ m₂ h hnd]

/-- the comparison on a dictionary of four: a negative order first, no order = 4 before order 5, names among equals -/
example : ole 4 ⟨[99], some (-1)⟩ ⟨[98], none⟩ = true ∧ ole 4 ⟨[98], none⟩ ⟨[100], none⟩ = true ∧
    ole 4 ⟨[100], none⟩ ⟨[97], some 5⟩ = true ∧ ole 4 ⟨[97], some 5⟩ ⟨[98], none⟩ = false := by decide +kernel

end OapiVerif.SchemaOrder

namespace OapiVerif.TypeDedup

/-- `constructImportMapping` walks a Go map twice; the package name of a path is the same for any two hand-out orders of
the mapping (and depends on the set of package paths only). -/
theorem C02_import_names_perm_invariant (m₁ m₂ : List (Str × Str)) (h : m₁.Perm m₂) (p : Str) :
    pkgName m₁ p = pkgName m₂ p :=
  pkgName_congr m₁ m₂ (fun _ => (h.map (·.2)).mem_iff) p

/-- …and the entries of the result are the same set -/
theorem C02_import_mapping_perm_invariant (m₁ m₂ : List (Str × Str)) (h : m₁.Perm m₂) :
    (construct m₁).Perm (construct m₂) := by
  simp only [construct, C02_import_names_perm_invariant m₁ m₂ h]
  exact h.filterMap _

example : pkgName [([1], [9]), ([2], [3])] [9] = pkgName [([2], [3]), ([1], [9])] [9] ∧
    pkgName [([1], [9]), ([2], [3])] [9] = some (externalRef ++ [49]) := by decide +kernel

end OapiVerif.TypeDedup
