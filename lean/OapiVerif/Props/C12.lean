import OapiVerif.Model.Strict
import OapiVerif.Proofs.GoJson
import OapiVerif.Proofs.Form
import OapiVerif.Gen.C12
import OapiVerif.Proofs.Bodies
import OapiVerif.Proofs.RespDefs
import OapiVerif.Gen.MediaSwitch
/-!
C12 — Strict server delivers decoded requests and writes the declared responses.

Model: Model/Strict.lean. Tie: TAB by RUN — `Gen/C12.lean` holds one row per (framework, operation, request
media type) and per (framework, response object type), measured on the strict servers generated from /repo
and compiled on this run; the kernel checks every row against the statement. RUN (harness c12) reports the
failing cell with its replay.
Below, each in its own namespace: the JSON and form bodies a strict handler receives and the JSON response it writes
(Model/GoJson.lean, Model/Form.lean), which bodies get a typed definition and the response switch as it stands in the source
(Model/Bodies.lean), and which response definitions are a component's type (Model/RespDefs.lean).
-/
namespace OapiVerif.Strict

theorem isPrefix_append (p s : List Char) : isPrefix p (p ++ s) = true := by
  induction p with
  | nil => rfl
  | cons a t ih => simp [isPrefix, ih]

theorem isPrefix_refl (s : List Char) : isPrefix s s = true := by
  simpa using isPrefix_append s []

/-- The body whose declared media type the request names — with or without parameters such as
`; charset=utf-8` — is selected. -/
theorem C12_named_body_selected (declared : List String) (d : String) (params : String) (h : d ∈ declared) :
    d ∈ selected declared (d ++ params) := by
  unfold selected
  simp only [List.mem_filter, h, true_and, String.toList_append]
  exact isPrefix_append _ _

/-- … and it is the only one whenever no other declared media type is a prefix of the Content-Type. -/
theorem C12_only_named_body_selected (declared : List String) (ct d : String) (hd : d ∈ declared) (hnd : declared.Nodup)
    (hp : isPrefix d.toList ct.toList = true)
    (hothers : ∀ e ∈ declared, e ≠ d → isPrefix e.toList ct.toList = false) : selected declared ct = [d] :=
  filter_eq_singleton hnd hd hp hothers

/-- Overlapping declarations select two bodies: `application/json` is a prefix of
`application/json-patch+json` (stated as the template behaves; such an operation decodes the body twice). -/
theorem C12_overlapping_prefix_witness :
    selected ["application/json", "application/json-patch+json"] "application/json-patch+json" =
      ["application/json", "application/json-patch+json"] := by decide +kernel

/-- A response with a fixed code and media type goes out with exactly those, whatever the object carries. -/
theorem C12_fixed_response (code : Nat) (ct : String) (hs : List String) (s : Supplied) :
    (write ⟨some code, some ct, true, hs⟩ s).status = code ∧ (write ⟨some code, some ct, true, hs⟩ s).contentType = some ct :=
  ⟨rfl, rfl⟩

/-- A default / range / wildcard response goes out with the status and media type supplied with it. -/
theorem C12_supplied_response (hs : List String) (s : Supplied) :
    (write ⟨none, none, true, hs⟩ s).status = s.status ∧ (write ⟨none, none, true, hs⟩ s).contentType = some s.contentType :=
  ⟨rfl, rfl⟩

/-- Only declared headers are written, each with the value the object carries. -/
theorem C12_headers_declared_only (d : Decl) (s : Supplied) :
    ∀ kv ∈ (write d s).headers, kv.1 ∈ d.headers ∧ ∃ e ∈ s.headers, e.1 = kv.1 ∧ e.2 = kv.2 := by
  intro kv hkv
  simp only [write, List.mem_filterMap, Option.map_eq_some_iff] at hkv
  obtain ⟨h, hh, e, hf, rfl⟩ := hkv
  obtain ⟨h2, h1⟩ := find?_key_some hf
  exact ⟨hh, e, h2, h1, rfl⟩

/-- A response without content carries no Content-Type. -/
theorem C12_no_content (c : Option Nat) (t : Option String) (hs : List String) (s : Supplied) :
    (write ⟨c, t, false, hs⟩ s).contentType = none := rfl

/-- TAB: on every framework, for every operation and request media type, the handler ran once and received the
path and query parameters and exactly the body the Content-Type selects, equal to what was sent. -/
theorem C12_request_table : Gen.C12.reqRows.all reqRowOk = true := by decide +kernel

/-- TAB: on every framework, every response object type goes out with the declared (or supplied) status and
media type, all declared headers with the supplied values, and the faithful body. -/
theorem C12_response_table : Gen.C12.respRows.all respRowOk = true := by decide +kernel

/-- TAB coverage: all seven frameworks, every request class and every response class are in the tables. -/
theorem C12_tables_cover :
    (List.range 7).all (fun fw => Gen.C12.reqRows.any (·.fw == fw) && Gen.C12.respRows.any (·.fw == fw)) = true ∧
    (List.range 6).all (fun c => Gen.C12.reqRows.any (·.cls == c)) = true ∧
    (List.range 6).all (fun c => Gen.C12.respRows.any (·.cls == c)) = true ∧
    Gen.C12.respRows.any (fun r => r.code == 0) = true ∧ Gen.C12.respRows.any (fun r => r.nHeaders > 0) = true := by
  decide +kernel

end OapiVerif.Strict

namespace OapiVerif.GoJson

/-- "the body decoded according to the request's Content-Type …, equal to what the client sent", JSON class: the strict
handler decodes the body into the request object's body type with `json.Unmarshal`; for what `json.Marshal` wrote from a
stable value of that type this is the value itself. -/
theorem C12_json_body_equals_sent (t : GoTy) (v : GoVal) (j : JVal) (hw : wf t = true) (ht : hasTy t v = true)
    (hs : stable t v = true) (he : encode t v = some j) : decode t j = some v :=
  (rep_of_encode hw ht hs he).dec

/-- "a body that is the faithful encoding of the value", JSON responses: what the response writer marshals decodes, on
the client, to the value the handler returned. -/
theorem C12_json_response_body_faithful (t : GoTy) (v : GoVal) (hw : wf t = true) (ht : hasTy t v = true)
    (hs : stable t v = true) : (encode t v).bind (decode t) = some v := by
  obtain ⟨j, he, hd⟩ := enc_dec t v hw ht hs
  simp [he, hd]

end OapiVerif.GoJson

namespace OapiVerif.Form

/-- Form class of "the body decoded according to the request's Content-Type, equal to what the client sent": the strict
handler binds the parsed form into the body struct; for the pairs of a well-typed body struct that is the struct. -/
theorem C12_form_body_equals_sent (fs : List Field) (vs : List (Option SVal)) (hnd : (fs.map (·.name)).Nodup)
    (hw : wellTyped fs vs = true) : bind (marshal fs vs) fs = some vs := bind_marshal fs vs hnd hw

end OapiVerif.Form

namespace OapiVerif.Bodies

/-- What the strict server decodes into a typed body: exactly the media classes the documentation names — JSON and
other JSON types, multipart, form, text — and the raw reader for everything else: a definition is supported exactly when
its media type falls into one of the five classes. -/
theorem C12_supported_iff_media_class (E : Env) (ct : Str) (hc : ∀ c, E.isJson c = true → E.camel c ≠ []) :
    (mkBody E ct).supported = true ↔
      (ct = appJson ∨ E.isJson ct = true ∨ multipartPrefix.isPrefixOf ct = true ∨ ct = formUrl ∨ ct = textPlain) := by
  -- a literal tag is not empty: the rewrite reads its first character off the literal
  have hlit : ∀ (c : Char) (l : List Char), (!(w (String.ofList (c :: l))).isEmpty) = true := fun c l => by
    rw [w, String.toList_ofList]; rfl
  unfold mkBody Body.supported
  -- arm by arm, each with what the arms before it have excluded
  fun_cases classify E ct with
  | case1 h => dsimp only; rw [hlit]; exact iff_of_true rfl (.inl h)
  | case2 _ h2 =>
    refine iff_of_true ?_ (.inr (.inl h2))
    cases hcm : E.camel ct with
    | nil => exact absurd hcm (hc ct h2)
    | cons _ _ => rfl
  | case3 _ _ h3 => dsimp only; rw [hlit]; exact iff_of_true rfl (.inr (.inr (.inl h3)))
  | case4 _ _ _ h4 => dsimp only; rw [hlit]; exact iff_of_true rfl (.inr (.inr (.inr (.inl h4))))
  | case5 _ _ _ _ h5 => dsimp only; rw [hlit]; exact iff_of_true rfl (.inr (.inr (.inr (.inr h5))))
  | case6 h1 h2 h3 h4 h5 =>
    exact iff_of_false Bool.false_ne_true
      (not_or.mpr ⟨h1, not_or.mpr ⟨h2, not_or.mpr ⟨h3, not_or.mpr ⟨h4, h5⟩⟩⟩⟩)

/-- The switch of `GenerateResponseDefinitions`, as translated from the source on every run, names a response content like
the request-body switch names a body (its clauses stand in another order and there is no default flag): the same five media
classes get a typed response, everything else is written from a reader. -/
theorem C12_response_switch_translated (E : Env) (ct : Str) :
    (evalSwitch E Gen.MediaSwitch.respSwitch ct).map (·.1) = (classify E ct).map (·.1) := by
  have hform : multipartPrefix.isPrefixOf formUrl = false := by
    -- the first characters differ; the rewrite reads them off the literals (the kernel is slow at decoding a `String`)
    unfold multipartPrefix formUrl w; repeat rw [String.toList_ofList]
    rfl
  -- the translated list, evaluated arm by arm, is an `if` cascade over the same five tests, form before multipart
  simp only [Gen.MediaSwitch.respSwitch, evalSwitch, Cond.holds, decide_eq_true_eq,
    show w "application/json" = appJson from rfl, show w "application/x-www-form-urlencoded" = formUrl from rfl,
    show w "multipart/" = multipartPrefix from rfl, show w "text/plain" = textPlain from rfl]
  fun_cases classify E ct with
  | case1 h => rw [if_pos h]; rfl
  | case2 h1 h2 => rw [if_neg h1, if_pos h2]
  | case3 h1 h2 h3 =>
    have h4 : ct ≠ formUrl := fun h => by rw [h, hform] at h3; cases h3
    rw [if_neg h1, if_neg h2, if_neg h4, if_pos h3]
  | case4 h1 h2 _ h4 => rw [if_neg h1, if_neg h2, if_pos h4]
  | case5 h1 h2 h3 h4 h5 => rw [if_neg h1, if_neg h2, if_neg h4, if_neg h3, if_pos h5]
  | case6 h1 h2 h3 h4 h5 => rw [if_neg h1, if_neg h2, if_neg h4, if_neg h3, if_neg h5]; rfl

end OapiVerif.Bodies

namespace OapiVerif.RespDefs

/-- `GenerateResponseDefinitions`: one definition per declared status code, in the same (ascending) order; **no two
definitions of an operation are the same component type** — the cases of the generated type switch are distinct types, so a
response object is written with the status code declared for it and not with another one's; and the `Ref` of a definition is
never anything but the component its own response refers to. For every list of responses. -/
theorem C12_component_response_used_once (rs : List RIn) :
    (respDefs rs).map (·.code) = rs.map (·.code) ∧ ((respDefs rs).filterMap (·.ref)).Nodup ∧ Matches rs (respDefs rs) := by
  obtain ⟨hc, hm, ⟨hn, _⟩, _⟩ := go_spec rs []
  exact ⟨hc, hn, hm⟩

/-- …and every component some response of the operation refers to is the type of one of its definitions: the component is
not replaced by copies throughout. (Of exactly one definition, by the theorem above; that it is the first status code
referring to it is how `go` works and is not stated.) -/
theorem C12_component_response_used (rs : List RIn) (r : RIn) (t : Str) (hr : r ∈ rs) (ht : r.ref = some t) :
    ∃ o ∈ respDefs rs, o.ref = some t :=
  (go_spec rs []).2.2.2 r hr t ht List.not_mem_nil

/-- non-vacuity: 401 and 403 → one component response: the first is the component, the second gets a type of its own -/
example : respDefs [⟨[50], none⟩, ⟨[52, 48, 49], some [69]⟩, ⟨[52, 48, 51], some [69]⟩, ⟨[53], some [70]⟩] =
    [⟨[50], none⟩, ⟨[52, 48, 49], some [69]⟩, ⟨[52, 48, 51], none⟩, ⟨[53], some [70]⟩] := by decide +kernel

end OapiVerif.RespDefs
