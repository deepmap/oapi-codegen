import OapiVerif.Proofs.Prune
import OapiVerif.Gen.Pipeline
/-!
C15 — Pruning keeps exactly the referenced components.

Model: `OapiVerif.Prune` (Model/Prune.lean).  Tie to /repo: CORR through the `verif`
hooks `VerifPrune`, with the abstraction `Doc` computed by an *independent* `$ref`
scanner over the marshalled JSON (harness `c15`).
-/
namespace OapiVerif.Prune

/-- The result is a fixpoint of one find-refs/remove-orphans round. -/
theorem C15_fixpoint (d : Doc) : step (prune d) = prune d :=
  pruneN_fix _ d (Nat.lt_succ_self _)

/-- Pruning an already pruned document changes nothing. -/
theorem C15_idempotent (d : Doc) : prune (prune d) = prune d := by
  show pruneN ((prune d).comps.length + 1) (prune d) = prune d
  unfold pruneN; rw [if_pos (by rw [C15_fixpoint])]

/-- What operations refer to is never touched. -/
theorem C15_roots (d : Doc) : (prune d).roots = d.roots := pruneN_roots _ d

/-- Nothing is invented: the retained components are components of the input. -/
theorem C15_sub (d : Doc) : ∀ c, c ∈ (prune d).comps → c ∈ d.comps := pruneN_sub _ d

/-- Every component an operation refers to, directly or through other components, is kept. -/
theorem C15_keeps_reachable (d : Doc) (c : Comp) (h : Reach d c) : c ∈ (prune d).comps := by
  apply pruneN_greatest (Reach d) _ d _ c h
  intro c hc
  cases hc with
  | root hm hr => exact ⟨hm, Or.inl hr⟩
  | via hm hr ho => exact ⟨hm, Or.inr ⟨_, hr, ho⟩⟩

/-- Every component that nothing retained refers to is removed (contrapositive form:
what is retained is referred to by an operation or by something retained). -/
theorem C15_only_referenced (d : Doc) (c : Comp) (h : c ∈ (prune d).comps) :
    c.ref ∈ allRefs (prune d) := by
  rw [← C15_fixpoint d] at h
  exact (mem_step.mp h).2

/-- The retained set is the *greatest* self-supporting subset. -/
theorem C15_greatest (d : Doc) (S : Comp → Prop)
    (hS : ∀ c, S c → c ∈ d.comps ∧ (c.ref ∈ d.roots ∨ ∃ c', S c' ∧ c.ref ∈ c'.out)) :
    ∀ c, S c → c ∈ (prune d).comps :=
  pruneN_greatest S _ d hS

/-- No dangling reference is created: a reference that survives in the pruned document and
resolved to a component of the input still resolves. -/
theorem C15_closed (d : Doc) (c : Comp) (hc : c ∈ d.comps)
    (hr : c.ref ∈ allRefs (prune d)) : c ∈ (prune d).comps := by
  -- the retained components together with `c` support themselves
  refine C15_greatest d (fun x => x ∈ (prune d).comps ∨ x = c) (fun x hx => ?_) c (.inr rfl)
  have key : ∀ y : Comp, y.ref ∈ allRefs (prune d) →
      y.ref ∈ d.roots ∨ ∃ c', (c' ∈ (prune d).comps ∨ c' = c) ∧ y.ref ∈ c'.out := fun y hy => by
    rw [mem_allRefs, C15_roots] at hy
    exact hy.imp id fun ⟨c', h1, h2⟩ => ⟨c', .inl h1, h2⟩
  rcases hx with hx | rfl
  · exact ⟨C15_sub d x hx, key x (C15_only_referenced d x hx)⟩
  · exact ⟨hc, key x hr⟩

/-! Non-vacuity: a concrete document with a reachable chain, an orphan chain that is
removed in two rounds, and a self-referencing orphan that (as in the code) stays. -/
def exDoc : Doc :=
  ⟨["A"], [⟨"A", ["B"]⟩, ⟨"B", []⟩, ⟨"C", ["D"]⟩, ⟨"D", []⟩, ⟨"E", ["E"]⟩]⟩

example : (prune exDoc).comps.map (·.ref) = ["A", "B", "E"] := by decide +kernel
example : Reach exDoc ⟨"B", []⟩ :=
  .via (by decide +kernel) (.root (c := ⟨"A", ["B"]⟩) (by decide +kernel) (by decide +kernel)) (by decide +kernel)

end OapiVerif.Prune

namespace OapiVerif.Pipeline

/-- **Pruning comes before every consumer of the document and after the filters**, in the source as it stands (the stage
list is regenerated from codegen.go on every run): among the calls of `Generate` before its first consumer are the two
filters followed by the pruning under `!skip-prune`, and after the first consumer nothing edits the document any more —
so what `OperationDefinitions`, the type definitions and the inlined specification see is one and the same pruned document. -/
theorem C15_pruning_precedes_every_consumer :
    Gen.Pipeline.stages.takeWhile (fun s => !isConsumer s) = [.filterTag, .filterId, .pruneUnlessSkip] ∧
    (Gen.Pipeline.stages.dropWhile (fun s => !isConsumer s)).all isConsumer = true ∧
    Stage.consumer "operationDefinitions" ∈ Gen.Pipeline.stages ∧ Stage.consumer "typeDefinitions" ∈ Gen.Pipeline.stages := by
  decide +kernel

end OapiVerif.Pipeline
