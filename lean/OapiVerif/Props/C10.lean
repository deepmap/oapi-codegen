import OapiVerif.Proofs.Merge
/-!
C10 — allOf produces the union of its members.

Model: Model/Merge.lean (flat members `Flat`; compositions with nested allOf as `Sch`, with `resolve` for what the generator does
and `leaves` for the flattening the statement speaks of). Ties (harness c10): CORR — `mergeOpenapiSchemas` through the verif hook
against `merge2` / `mergeList`; RUN — every permutation of sampled compositions, merged struct of the generated
file against the statement, conflicts rejected in every order, JSON instance round trip through the compiled type.

Every statement about a successful merge is an instance of `mergeList_additive` / `mergeTop_additive` (Proofs/Merge.lean), or,
where one member alone decides (forbidding, a kept additional-properties schema, a conflict), of its half `mergeList_of_mem`.
-/
namespace OapiVerif.Merge

/-- The merged type has exactly the union of the properties of its members. -/
theorem C10_props_union (ms : List Flat) (r : Flat) (h : mergeList ms = .ok r) (k : String) :
    k ∈ keys r.props ↔ ∃ m ∈ ms, k ∈ keys m.props :=
  mergeList_additive (additive_props k) (by simp [zero, keys]) h

/-- A property is required iff some member requires it. -/
theorem C10_required_iff (ms : List Flat) (r : Flat) (h : mergeList ms = .ok r) (k : String) :
    k ∈ r.required ↔ ∃ m ∈ ms, k ∈ m.required :=
  mergeList_additive (additive_required k) (by simp [zero]) h

/-- Both are sets: the result does not depend on the order of the members. -/
theorem C10_order_independent (ms ms' : List Flat) (r r' : Flat) (hp : ms.Perm ms')
    (h : mergeList ms = .ok r) (h' : mergeList ms' = .ok r') (k : String) :
    (k ∈ keys r.props ↔ k ∈ keys r'.props) ∧ (k ∈ r.required ↔ k ∈ r'.required) := by
  rw [C10_props_union ms r h, C10_props_union ms' r' h', C10_required_iff ms r h, C10_required_iff ms' r' h']
  simp only [hp.mem_iff, and_self]

/-- Additional properties are forbidden in the merged type as soon as one member forbids them. -/
theorem C10_forbid_wins (ms : List Flat) (r : Flat) (h : mergeList ms = .ok r) (hf : ∃ m ∈ ms, explicitFalse m = true) :
    explicitFalse r = true :=
  hf.elim fun _ hm => mergeList_of_mem additive_forbid h hm.1 hm.2

/-- … and otherwise they are kept with the value type a member declares. -/
theorem C10_addl_kept (ms : List Flat) (r : Flat) (h : mergeList ms = .ok r) (hn : ∀ m ∈ ms, explicitFalse m = false)
    (a : Nat) (ha : ∃ m ∈ ms, m.addlSchema = some a) : r.addlSchema = some a ∧ explicitFalse r = false := by
  have hr : explicitFalse r = false := by
    cases hr : explicitFalse r with
    | false => rfl
    | true =>
      obtain ⟨m, hm, hmf⟩ := (mergeList_additive additive_forbid (by decide) h).mp hr
      rw [hn m hm] at hmf; cases hmf
  obtain ⟨m, hm, hma⟩ := ha
  have := mergeList_of_mem (additive_addl a) h hm (.inr hma)
  exact ⟨this.resolve_left (by rw [hr]; decide), hr⟩

/-- Members that disagree on `type` are rejected, wherever they stand in the list and whatever lies between
them (also untyped members). -/
theorem C10_type_conflict_rejected (ms : List Flat) (m₁ m₂ : Flat) (t₁ t₂ : Nat) (h₁ : m₁ ∈ ms) (h₂ : m₂ ∈ ms)
    (ht₁ : m₁.type = some t₁) (ht₂ : m₂.type = some t₂) (hne : t₁ ≠ t₂) : ∃ e, mergeList ms = .error e :=
  -- the merged type would be both
  exists_error_of_not_ok fun _ hm => hne (Option.some.inj
    ((mergeList_of_mem (additive_type t₁) hm h₁ ht₁).symm.trans (mergeList_of_mem (additive_type t₂) hm h₂ ht₂)))

/-- Members that disagree on `format` are rejected (the code also rejects a format next to no format:
stated as it is). -/
theorem C10_format_conflict_rejected (ms : List Flat) (m₁ m₂ : Flat) (h₁ : m₁ ∈ ms) (h₂ : m₂ ∈ ms)
    (hne : m₁.format ≠ m₂.format) : ∃ e, mergeList ms = .error e :=
  exists_error_of_not_ok fun _ hm => hne
    ((mergeList_of_mem (additive_format _) hm h₁ rfl).symm.trans (mergeList_of_mem (additive_format _) hm h₂ rfl))

/-- allOf is transitive: with nested allOf members the merged type has exactly the union of the properties of all
transitively flattened members, and a property is required iff some leaf requires it (a member that carries a
nested allOf contributes its nested members, not its own attributes — stated as the code behaves). -/
theorem C10_nested_flattened (ms : List Sch) (r : Flat) (h : mergeTop ms = .ok r) (k : String) :
    (k ∈ keys r.props ↔ ∃ l ∈ leavesL ms, k ∈ keys l.props) ∧ (k ∈ r.required ↔ ∃ l ∈ leavesL ms, k ∈ l.required) :=
  ⟨mergeTop_additive (additive_props k) (by simp [zero, keys]) h,
   mergeTop_additive (additive_required k) (by simp [zero]) h⟩

/-- Before the repair an untyped first member hid the type of the second from the third: `[untyped, object,
string]` merged without an error while `[object, string, untyped]` was rejected (reproduced; `fixed:`). -/
theorem C10_old_type_rule_witness :
    ∃ a b c : Flat, (mergeFrom merge2Old a [b, c]).toBool = true ∧ (mergeFrom merge2Old b [c, a]).toBool = false :=
  ⟨zero, { zero with type := some 1 }, { zero with type := some 2 }, by decide +kernel⟩

example : (mergeList [{ zero with type := some 1, props := [("a", 1)], required := ["a"] },
    { zero with props := [("b", 2), ("a", 1)], addlHas := some true }]).toOption.map (fun r => (keys r.props, r.required, r.addlHas)) =
    some (["a", "b"], ["a"], some true) := by decide +kernel

end OapiVerif.Merge
