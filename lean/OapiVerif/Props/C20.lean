import OapiVerif.Proofs.Cli
import OapiVerif.Gen.C20
/-!
C20 — The command-line tool is equivalent to the library for the same configuration.

Model: Model/Cli.lean (generate targets, defaults, validation, style detection, translation tables).
Ties: FACT+TAB `Gen/C20.lean` — the target names of the `generationTargets` switch (go/ast) and, from the
binary built from /repo on this run, what `-output-config` reports for every single target, every pair of
targets and selected longer lists (through the flag and through an old-style file); every key of
configuration-schema.json and of the configuration struct through a new-style file; every old-style key
and every legacy flag. RUN — seeded (document, configuration) pairs expressed as new-style file, old-style
file and legacy flags: output bytes of the tool against `codegen.Generate` with the equivalent
configuration; rejections leave no output; `-output-config` fed back reproduces the output.
-/
namespace OapiVerif.Cli

/-- A list of targets that contains a name outside the documented table is rejected, wherever the
name stands and whatever else is selected. -/
theorem C20_unknown_target_rejected (base : Eff) (ts : List String) (h : ∃ t ∈ ts, docTarget t = none) :
    cli base ts = none := by
  have := (targetFlags_none_iff ts).mpr h
  simp [cli, generationTargets, this]

/-- Accepted targets select exactly their documented switches: a generate option is on iff one of the
listed names is documented to turn it on (earlier values of the generate options are discarded); the two
output options are on iff listed or already on. -/
theorem C20_targets_exact (base : Eff) (ts : List String) (e : Eff) (h : generationTargets base ts = some e) (f : Flag) :
    e f = ((match f with | .skipFmt | .skipPrune => base f | _ => false) || ts.any (fun t => docTarget t == some f)) := by
  simp only [generationTargets, Option.map_eq_some_iff] at h
  obtain ⟨fs, hfs, rfl⟩ := h
  rw [← targetFlags_some hfs f]
  cases f <;> rfl

/-- The order of the targets and repetitions do not matter. -/
theorem C20_targets_order_irrelevant (base : Eff) (ts ts' : List String) (e e' : Eff)
    (hp : ∀ t, t ∈ ts ↔ t ∈ ts') (h : generationTargets base ts = some e) (h' : generationTargets base ts' = some e') :
    e = e' := by
  funext f
  rw [C20_targets_exact base ts e h f, C20_targets_exact base ts' e' h' f]
  congr 1
  rw [Bool.eq_iff_iff, List.any_eq_true, List.any_eq_true]
  simp only [hp]

/-- A configuration that selects more than one server flavour never validates. -/
theorem C20_two_servers_invalid (pkgEmpty : Bool) (e : Eff) (f g : Flag) (hf : f.isServer = true) (hg : g.isServer = true)
    (hne : f ≠ g) (ef : e f = true) (eg : e g = true) : validate pkgEmpty e = false := by
  rw [validate, decide_eq_false (Nat.not_le.mpr (two_le_nServers e f g hf hg hne ef eg)), Bool.and_false]

/-- … and so is every target list naming two different server flavours, whatever else it names. -/
theorem C20_two_server_targets_rejected (base : Eff) (ts : List String) (t u : String) (f g : Flag)
    (ht : t ∈ ts) (hu : u ∈ ts) (dt : docTarget t = some f) (du : docTarget u = some g)
    (hf : f.isServer = true) (hg : g.isServer = true) (hne : f ≠ g) : cli base ts = none := by
  unfold cli
  cases h : generationTargets base ts with
  | none => rfl
  | some e =>
    have on (t : String) (f : Flag) (ht : t ∈ ts) (dt : docTarget t = some f) : e f = true := by
      rw [C20_targets_exact base ts e h f, Bool.or_eq_true, List.any_eq_true]
      exact .inr ⟨t, ht, by simp [dt]⟩
    have := C20_two_servers_invalid false (updateDefaults e) f g hf hg hne
      (updateDefaults_server e f (on t f ht dt) hf) (updateDefaults_server e g (on u g hu du) hg)
    simp [this]

/-- Defaults only fill an empty selection and are stable. -/
theorem C20_defaults_idempotent (e : Eff) : updateDefaults (updateDefaults e) = updateDefaults e := by
  fun_cases updateDefaults e
  case case1 hempty => exact if_neg Bool.false_ne_true  -- filled: `echo` is on now, so `genIsZero` evaluates to `false`
  case case2 hsome => rw [updateDefaults, if_neg hsome]

/-- A configuration file is only ever used in a style under which it parses strictly — a file with a key
that neither style knows is rejected, also when the old style is forced. -/
theorem C20_selected_style_parses (d : Detect) (s : Style) (h : detectStyle d = some s) (hf : d.hasFile = true) :
    (s = .old → d.oldOk = true) ∧ (s = .new → d.newOk = true) := by
  -- a fact about four Booleans for either style: evaluated
  obtain ⟨fo, _, o, n, dep⟩ := d
  cases hf
  revert fo o n dep
  cases s <;> decide +kernel

theorem C20_unknown_key_rejected (d : Detect) (hf : d.hasFile = true) (ho : d.oldOk = false) (hn : d.newOk = false) :
    detectStyle d = none := by
  obtain ⟨fo, _, _, _, dep⟩ := d
  cases hf; cases ho; cases hn
  cases fo <;> rfl

/-- Before the repair the forced old style accepted such a file (reproduced on the real tool; `fixed:`). -/
theorem C20_forced_old_witness :
    ∃ d : Detect, d.hasFile = true ∧ d.oldOk = false ∧ d.newOk = false ∧ detectStyleOld d ≠ none :=
  ⟨⟨true, true, false, false, false⟩, by decide⟩

/-- FACT: the names accepted by the `generationTargets` switch are exactly the names of the documented table. -/
theorem C20_switch_names_documented :
    Gen.C20.switchNames.all (fun n => (docTarget n).isSome) = true ∧
    documentedNames.all (fun n => Gen.C20.switchNames.contains n && (docTarget n).isSome) = true := by
  decide +kernel

/-- TAB: for every target list tried on the built tool, what it reported is what the model computes. -/
theorem C20_targets_table : Gen.C20.targetRows.all targetRowOk = true := by decide +kernel

/-- TAB coverage: every documented name, alone, is a row; so is a name outside the table. -/
theorem C20_targets_table_covers :
    documentedNames.all (fun n => Gen.C20.targetRows.any (fun r => r.targets == [n])) = true ∧
    Gen.C20.targetRows.any (fun r => r.targets.any (fun t => (docTarget t).isNone)) = true := by
  decide +kernel

/-- TAB: every documented configuration key is a key of the configuration struct and vice versa, is
accepted, changes exactly itself in the effective configuration and reads back what was written. -/
theorem C20_keys_table :
    Gen.C20.keyRows.all keyRowOk = true ∧
    documentedKeys.all (fun k => Gen.C20.keyRows.any (fun r => r.key == k)) = true :=
  -- The measured rows come in sorted key order (the harness walks the keys through `SortedKeys`), which is the order of
  -- `documentedKeys`: the table is compared with the expected table as it is written, so no string is encoded, and
  -- `keyRowOf_ok` gives the reason for every list of keys.
  (rfl : Gen.C20.keyRows = documentedKeys.map keyRowOf) ▸ keyRowOf_ok documentedKeys

/-- TAB: every old-style key and every legacy flag lands in its documented configuration key,
in every style it can be combined with. -/
theorem C20_translation_table :
    Gen.C20.transRows.all transRowOk = true ∧
    oldKeys.all (fun k => Gen.C20.transRows.any (fun r => r.style == "old-file" && r.name == k)) = true ∧
    legacyFlags.all (fun k => Gen.C20.transRows.any (fun r => r.style != "old-file" && r.name == k)) = true := by
  decide +kernel

example : (cli Eff.none ["chi", "client", "types"]).map Eff.toList = some [.chi, .client, .models] := by decide +kernel
example : (cli Eff.none ["skip-prune"]).map Eff.toList = some [.echo, .models, .spec, .skipPrune] := by decide +kernel
example : cli Eff.none ["chi", "gin"] = none := by decide +kernel
example : cli Eff.none ["chi", "bogus"] = none := by decide +kernel

/-- TAB: for every combination of `-old-config-style`, kind of configuration file (old-only, new-only, readable as
both, readable as neither) and presence of a deprecated flag, the tool built from the working tree settles on the
style `detectStyle` prescribes (or refuses where it refuses); all 16 combinations are in the table. (Without a file
both styles read the same flags and cannot be told apart from outside.) -/
theorem C20_detect_table : Gen.C20.detectRows.all detectRowOk = true ∧ Gen.C20.detectRows.length = 16 := by
  decide +kernel

end OapiVerif.Cli
