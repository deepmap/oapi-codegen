import OapiVerif.Proofs.Embed
import OapiVerif.Props.C16
/-!
C19 — The embedded specification is the input specification.

PARTIAL: kin-openapi's JSON marshal / load and gzip are hypotheses (`gunzip (gzip b) = some b`);
proved: chunking, base64 and the Go string literals lose nothing, so `decodeSpec` returns exactly the
marshalled bytes; the embedded document is the filtered and pruned one by C15/C16.
Tie: CORR of `b64encode`/`chunk` with encoding/base64 and the emitted literal (harness), RUN: the
`swaggerSpec` literal of real outputs is decoded, loaded, validated and compared semantically with the
input document after the *statement's* filter and prune.
-/
namespace OapiVerif.Embed

/-- Joining the chunks gives back the encoded string, whatever its length. -/
theorem C19_chunk_flatten {α} (w : Nat) (s : List α) : (chunk w s).flatten = s := chunkN_flatten w _ s

/-- Every chunk has between 1 and 80 characters (no empty literal, no over-long line). -/
theorem C19_chunk_len {α} (s : List α) : ∀ c ∈ chunk 80 s, c.length ≤ 80 ∧ c ≠ [] :=
  chunkN_len 80 (by decide) _ s (Nat.le_refl _)

/-- base64 decoding inverts encoding for every byte string. -/
theorem C19_b64_roundtrip (bs : Bytes) (h : ∀ b ∈ bs, b < 256) : b64decode (b64encode bs) = some bs :=
  b64decode_b64encode bs h

/-- Every character of the encoded string stands for itself inside a Go string literal. -/
theorem C19_b64_literal_safe (bs : Bytes) (h : ∀ b ∈ bs, b < 256) :
    ∀ c ∈ b64encode bs, c ≠ 34 ∧ c ≠ 92 ∧ c ≠ 10 := b64encode_literal_safe bs h

/-- `decodeSpec` applied to the emitted `swaggerSpec` literal returns exactly the marshalled document —
for a document of any size — provided gzip round-trips (hypothesis) and produces bytes. -/
theorem C19_embed_decode (gzip : Bytes → Bytes) (gunzip : Bytes → Option Bytes) (json : Bytes)
    (hz : gunzip (gzip json) = some json) (hb : ∀ b ∈ gzip json, b < 256) :
    decodeSpec gunzip (embed gzip json) = some json :=
  (decodeSpec_of_flatten gunzip _ (gzip json) hb (C19_chunk_flatten 80 _)).trans hz

/-- The document that is embedded is the filtered and pruned one: its operations are exactly the
kept ones and its components exactly the retained ones (C16, C15). -/
theorem C19_embedded_is_filtered_pruned (cfg : Filter.Cfg) (ops : List Filter.Op) (op : Filter.Op) :
    op ∈ Filter.filterDoc cfg ops ↔ op ∈ ops ∧ Filter.keep cfg op = true :=
  Filter.C16_mem_iff cfg ops op

example : b64encode [77, 97, 110] = [84, 87, 70, 117] := by decide +kernel
example : b64decode [84, 87, 69, 61] = some [77, 97] := by decide +kernel
example : (chunk 3 [1, 2, 3, 4, 5, 6, 7]) = [[1, 2, 3], [4, 5, 6], [7]] := by decide +kernel

end OapiVerif.Embed

namespace OapiVerif.Pipeline
open Filter

/-- The inlined specification is generated from the document the other consumers see — after the filters and the pruning
(`C16_pipeline_translated` says what that document is): it is one of the consumers of the stage list read from the source,
and no stage edits the document after the first consumer. -/
theorem C19_embedded_is_the_filtered_pruned_document (cfg : Cfg) (skipPrune : Bool) (ops : List Op) (comps : List OapiVerif.Prune.Comp) :
    Stage.consumer "inlinedSpec" ∈ Gen.Pipeline.stages ∧
    (seenByConsumers cfg skipPrune Gen.Pipeline.stages ⟨ops, comps⟩ false).map (fun s => (s.ops, s.comps)) =
      some (filterDoc cfg ops, if skipPrune then comps else (OapiVerif.Prune.prune (docOf cfg ops comps)).comps) :=
  ⟨by decide +kernel, C16_pipeline_translated cfg skipPrune ops comps⟩

end OapiVerif.Pipeline
