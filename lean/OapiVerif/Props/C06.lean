import OapiVerif.Props.C04
import OapiVerif.Gen.C06
import OapiVerif.Proofs.IntParse
import OapiVerif.Proofs.DateParse
import OapiVerif.Proofs.UuidParse
/-!
C06 — Malformed or missing parameters never reach the user's handler.

Model: Model/Reject.lean (the per-parameter decision structure of the wrappers over the runtime
model). Tie: TAB-by-RUN `Gen/C06.lean` — for every framework × location × {styled, JSON, pass-through}
× required × stimulus the generated server is run and (handler ran?, status, typed error delivered?)
is recorded; `C06_table_partial` re-checks every cell against the statement. Values inside a stimulus class
are covered by the CORR of the runtime model (shared with C04). The typed layer behind the binder — integers, booleans,
dates, UUIDs — follows in sections of its own.
-/
namespace OapiVerif.Reject
open OapiVerif.Codec OapiVerif.Escape

/-- A missing required header / cookie never reaches the handler. -/
theorem C06_missing_required_header (st : Style) (explode : Bool) (name : Str) (sh : Shape) :
    (headerParam st explode true name sh none).handlerRuns = false := rfl

theorem C06_missing_required_cookie (explode : Bool) (name : Str) (sh : Shape) :
    (cookieParam explode true name sh none).handlerRuns = false := rfl

/-- A missing required query parameter (primitive or array) never reaches the handler. -/
theorem C06_missing_required_query (explode : Bool) (name : Str) (sh : Shape) (hsh : sh ≠ .obj)
    (fields : List Str) (q : Query) (h : qLookup q name = none) :
    (queryParam explode true name sh fields q).handlerRuns = false := by
  cases sh <;> cases explode <;> simp_all [queryParam, bindQuery, Outcome.handlerRuns]

/-- A repeated single-valued header never reaches the handler. -/
theorem C06_duplicate_header (st : Style) (explode required : Bool) (name : Str) (sh : Shape)
    (a b : Str) (rest : List Str) :
    (headerParam st explode required name sh (some (a :: b :: rest))).handlerRuns = false := rfl

/-- A value the runtime cannot bind never reaches the handler, in any location. -/
theorem C06_unbindable_header (st : Style) (explode required : Bool) (name : Str) (sh : Shape) (v : Str) (e : String)
    (h : bindStyled st explode required name .header sh v = .error e) :
    (headerParam st explode required name sh (some [v])).handlerRuns = false := by
  simp [headerParam, h, Outcome.handlerRuns]

theorem C06_unbindable_path (st : Style) (explode : Bool) (name : Str) (sh : Shape) (v : Str) (e : String)
    (h : bindStyled st explode true name .path sh v = .error e) :
    (pathParam st explode name sh v).handlerRuns = false := by
  simp [pathParam, h, Outcome.handlerRuns]

theorem C06_unbindable_cookie (explode required : Bool) (name : Str) (sh : Shape) (v : Str) (e : String)
    (h : bindStyled .simple explode required name .cookie sh v = .error e) :
    (cookieParam explode required name sh (some v)).handlerRuns = false := by
  simp [cookieParam, h, Outcome.handlerRuns]

theorem C06_unbindable_query (explode required : Bool) (name : Str) (sh : Shape) (fields : List Str) (q : Query)
    (e : String) (h : bindQuery explode required name sh fields q = .error e) :
    (queryParam explode required name sh fields q).handlerRuns = false := by
  simp [queryParam, h, Outcome.handlerRuns]

/-- Instances of "cannot be bound": an empty required value, a label array without its dot, an odd key/value list, a
malformed percent-escape in a path. -/
theorem C06_empty_required (st : Style) (explode : Bool) (name : Str) (loc : Loc) (sh : Shape) :
    ∃ e, bindStyled st explode true name loc sh [] = .error e := ⟨"empty", by simp [bindStyled]⟩

theorem C06_label_without_dot (explode required : Bool) (name : Str) (loc : Loc) (c : Nat) (rest : Str)
    (hc : c ≠ cDot) (hu : unescLoc loc (c :: rest) = .ok (c :: rest)) :
    ∃ e, bindStyled .label explode required name loc .arr (c :: rest) = .error e := by
  cases explode
  · exact ⟨"label-prefix", by simp [bindStyled, hu, splitStyled, hc]⟩
  · obtain ⟨first, tl, hs, hf⟩ := split_head_ne_nil rest hc
    exact ⟨"label-prefix", by simp [bindStyled, hu, splitStyled, hs, hf]⟩

theorem C06_odd_pairs (st : Style) (name : Str) (loc : Loc) (required : Bool) (v : Str) (x : Str)
    (hne : (required && v.isEmpty) = false) (hu : unescLoc loc v = .ok v)
    (hs : splitStyled st false true name v = .ok [x]) :
    ∃ e, bindStyled st false required name loc .obj v = .error e :=
  ⟨"pairs", by simp [bindStyled, hne, hu, hs, partsToPairs, pairUp]⟩

theorem C06_bad_escape_path (st : Style) (explode required : Bool) (name : Str) (sh : Shape) (v : Str)
    (hne : (required && v.isEmpty) = false) (h : unescape .path v = none) :
    ∃ e, bindStyled st explode required name .path sh v = .error e :=
  ⟨"unescape", by simp [bindStyled, hne, unescLoc, h]⟩

/-- Conversely a request whose parameter is present and representable is never rejected (arrays;
objects and primitives follow from `C04_object_roundtrip`, `C04_prim_roundtrip` the same way). -/
theorem C06_wellformed_accepted_header (st : Style) (hst : st ≠ .form) (explode required : Bool) (name : Str)
    (xs : List Str) (hR : ArrRepr st explode name .header xs)
    (hreq : required = true → styleParam st explode name .header (.arr xs) ≠ []) :
    headerParam st explode required name .arr (some [styleParam st explode name .header (.arr xs)])
      = .handler (some (.arr xs)) := by
  simp [headerParam, C04_array_roundtrip st hst explode required name .header (by decide) xs hR hreq]

/-- TAB. Full statement: `∀ r ∈ Gen.C06.table, rowOk r = true`. It is false on the unchanged tree for
exactly the cells of `knownDeviation` (see there); what is re-checked on every run is that every
other cell agrees with the statement. -/
theorem C06_table_partial : ∀ r ∈ Gen.C06.table, (rowOk r || knownDeviation r) = true := by
  -- chunk by chunk: the kernel would otherwise walk the left-nested `++` of the chunks again for every row
  unfold Gen.C06.table
  simp only [List.forall_mem_append, ← List.all_eq_true, ← Bool.and_eq_true]
  decide +kernel

example : (headerParam .simple false true [88] .arr none) = .reject .requiredHeader := by decide
example : mustReject ⟨0, 2, 0, 1, true, 8, false, false, 400, 0⟩ = true := by decide

end OapiVerif.Reject

namespace OapiVerif.Props.C06
open OapiVerif.IntParse

/-! ### the typed layer of integer parameters (Model/IntParse.lean: `strconv.ParseInt` + the destination's range) -/

/-- "Conversely, a request whose parameters are … well-formed is never rejected": the decimal text of every value of
the destination's range (`bits` = 32 for int32, 64 for int64 / int) is accepted and gives that value — negative
values, zero and both bounds included. -/
theorem C06_integer_in_range_accepted (bits : Nat) (v : Int) (h : InRange bits v) :
    parseInt bits (renderInt v) = .ok v := parseInt_render bits v h

/-- "a value that cannot be converted to the declared type never reaches the handler" — overflow: the text of a value
outside the destination's range is refused, -/
theorem C06_integer_overflow_rejected (bits : Nat) (v : Int) (h : ¬InRange bits v) :
    parseInt bits (renderInt v) = .error .rejected := by
  rw [parse_render_eq, if_neg h]

/-- wrong type: a text with any character besides digits and a sign is refused, -/
theorem C06_integer_malformed_rejected (bits : Nat) (s : Str) (c : Nat) (hc : c ∈ s) (hnd : isDigit c = false)
    (h45 : c ≠ 45) (h43 : c ≠ 43) : parseInt bits s = .error .rejected := by
  rw [parseInt, parseNat_of_not_digit (mem_body hc h45 h43) hnd]; rfl

/-- and nothing outside the range is ever produced. -/
theorem C06_integer_accepted_fits (bits : Nat) (s : Str) (v : Int) (h : parseInt bits s = .ok v) : InRange bits v :=
  inRange_of_parseInt h

example : parseInt 32 (renderInt 2147483647) = .ok 2147483647 := parseInt_render _ _ (by decide)
example : parseInt 32 (renderInt 2147483648) = .error .rejected := C06_integer_overflow_rejected _ _ (by decide)
example : parseInt 64 [45, 57] = .ok (-9) := by rfl
example : parseInt 64 [49, 46, 53] = .error .rejected := by rfl
example : parseInt 64 [] = .error .rejected := by rfl
example : parseInt 64 [45] = .error .rejected := by rfl
example : parseInt 64 [43, 48, 55] = .ok 7 := by rfl

/-- Booleans: what the client writes is read back, and only the twelve spellings of `strconv.ParseBool` are accepted. -/
theorem C06_boolean_roundtrip_and_accepted_set (b : Bool) (s : Str) :
    parseBool (renderBool b) = some b ∧
    (parseBool s = some true → s ∈ trueTexts) ∧ (parseBool s = some false → s ∈ falseTexts) :=
  ⟨parseBool_renderBool b, mem_texts_of_parseBool, mem_texts_of_parseBool⟩

/-! ### the typed layer of `format: date` (Model/DateParse.lean: `time.Parse("2006-01-02")` / `Format`) -/

/-- A date that exists (year up to 9999, month 1–12, a day of that month, leap years counted) is written as ten
characters that are read back as the same date: never rejected. -/
theorem C06_date_written_is_read (t : DateParse.Date) (h : t.valid = true) :
    DateParse.parse (DateParse.format t) = some t := (DateParse.parse_eq_some_iff _ t).mpr ⟨h, rfl⟩

/-- Conversely a text is accepted only if it is the one spelling of a date that exists: a month 13, a 30th of
February, a missing leading zero, a trailing character are all refused ("bad date"). -/
theorem C06_date_accepted_only_if_exists (s : DateParse.Str) (t : DateParse.Date) (h : DateParse.parse s = some t) :
    t.valid = true ∧ DateParse.format t = s := (DateParse.parse_eq_some_iff s t).mp h

def wD (s : String) : DateParse.Str := s.toList.map Char.toNat

example : DateParse.parse (wD "2024-02-29") = some ⟨2024, 2, 29⟩ ∧ DateParse.parse (wD "2023-02-29") = none ∧
    DateParse.parse (wD "1900-02-29") = none ∧ DateParse.parse (wD "2000-02-29") = some ⟨2000, 2, 29⟩ ∧
    DateParse.parse (wD "2021-13-01") = none ∧ DateParse.parse (wD "2021-1-01") = none ∧
    DateParse.parse (wD "2021-04-31") = none ∧ DateParse.parse (wD "2021-04-30x") = none ∧
    DateParse.parse (wD "2021-00-10") = none := by
  -- read the characters off the literals: the kernel decodes a `String` literal much more slowly than it parses the date
  unfold wD; repeat rw [String.toList_ofList]
  decide +kernel

/-! ### the typed layer of `format: uuid` (Model/UuidParse.lean: `github.com/google/uuid` `Parse` / `String`) -/

/-- Every 16-byte value is written as 36 characters that are read back as the same 16 bytes. -/
theorem C06_uuid_written_is_read (bs : List Nat) (hl : bs.length = 16) (hb : ∀ x ∈ bs, x < 256) :
    UuidParse.parse (UuidParse.render bs) = some bs := UuidParse.parse_render bs hl hb

/-- A text of any other length than the four the library knows (36; 45 with `urn:uuid:`; 38; 32) is refused. -/
theorem C06_uuid_other_lengths_rejected (s : UuidParse.Str)
    (h : s.length ≠ 36 ∧ s.length ≠ 45 ∧ s.length ≠ 38 ∧ s.length ≠ 32) : UuidParse.parse s = none := by
  simp [UuidParse.parse, h.1, h.2.1, h.2.2.1, h.2.2.2]

example : UuidParse.parse (wD "123e4567-e89b-12d3-a456-426614174000") =
    some [0x12, 0x3e, 0x45, 0x67, 0xe8, 0x9b, 0x12, 0xd3, 0xa4, 0x56, 0x42, 0x66, 0x14, 0x17, 0x40, 0x00] := by
  unfold wD; rw [String.toList_ofList]; decide +kernel
example : UuidParse.parse (wD "123e4567-e89b-12d3-a456-42661417400g") = none := by
  unfold wD; rw [String.toList_ofList]; decide +kernel
example : UuidParse.parse (wD "123e4567e89b-12d3-a456-4266141740000") = none := by
  unfold wD; rw [String.toList_ofList]; decide +kernel

end OapiVerif.Props.C06
