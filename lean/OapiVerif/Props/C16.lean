import OapiVerif.Proofs.Filter
import OapiVerif.Props.C15
import OapiVerif.Gen.FilterRules
/-!
C16 — Tag and operation-id filtering is exact.
Tie: CORR through `VerifFilterByTag` / `VerifFilterByOperationID` and through `Generate`
(methods of the generated interfaces, operations of the embedded spec) — harness `c16`.
-/
namespace OapiVerif.Filter

/-- The two-pass, in-place-deleting filter keeps exactly the operations the statement keeps. -/
theorem C16_filter_exact (cfg : Cfg) (ops : List Op) :
    filterDoc cfg ops = ops.filter (keep cfg) := by
  simp only [filterDoc]
  rw [filterByTag_eq, filterById_eq, List.filter_filter]
  apply List.filter_congr; intro x _
  rw [keep, Bool.and_comm, Bool.and_assoc, Bool.and_assoc, Bool.and_assoc]

/-- An operation is in the result iff it was in the document and satisfies the filter. -/
theorem C16_mem_iff (cfg : Cfg) (ops : List Op) (op : Op) :
    op ∈ filterDoc cfg ops ↔ op ∈ ops ∧ keep cfg op = true := by
  rw [C16_filter_exact]; simp

/-- Filtering does not depend on the order in which the (map of) operations is walked. -/
theorem C16_perm (cfg : Cfg) (ops ops' : List Op) (h : ops.Perm ops') :
    (filterDoc cfg ops).Perm (filterDoc cfg ops') := by
  rw [C16_filter_exact, C16_filter_exact]; exact h.filter _

/-- Filtering twice is filtering once. -/
theorem C16_idempotent (cfg : Cfg) (ops : List Op) :
    filterDoc cfg (filterDoc cfg ops) = filterDoc cfg ops := by
  simp [C16_filter_exact]

/-- Unknown names in an exclusion list change nothing. -/
theorem C16_unknown_exclude (ops : List Op) (ex : List String)
    (h : ∀ op ∈ ops, hasTag op ex = false) :
    filterDoc ⟨[], ex, [], []⟩ ops = ops := by
  rw [C16_filter_exact]; apply List.filter_eq_self.mpr
  intro op hop; simp [keep, h op hop, hasId_nil]

/-! Pruning after filtering (corollaries of C15): the roots of the pruned document are the
references of the *kept* operations. -/
open OapiVerif.Prune in
def docOf (cfg : Cfg) (ops : List Op) (comps : List Comp) : Doc :=
  ⟨(filterDoc cfg ops).flatMap (·.refs), comps⟩

open OapiVerif.Prune in
/-- Everything a remaining operation needs is still there. -/
theorem C16_prune_keeps_needed (cfg : Cfg) (ops : List Op) (comps : List Comp) (c : Comp)
    (h : Reach (docOf cfg ops comps) c) : c ∈ (prune (docOf cfg ops comps)).comps :=
  C15_keeps_reachable _ c h

open OapiVerif.Prune in
/-- A component used only by removed operations disappears: what is retained is referred to by
a kept operation or by a retained component. -/
theorem C16_prune_drops_unneeded (cfg : Cfg) (ops : List Op) (comps : List Comp) (c : Comp)
    (h : c ∈ (prune (docOf cfg ops comps)).comps) :
    (∃ op ∈ ops, keep cfg op = true ∧ c.ref ∈ op.refs) ∨
    (∃ c' ∈ (prune (docOf cfg ops comps)).comps, c.ref ∈ c'.out) := by
  have := mem_allRefs.mp (C15_only_referenced _ c h)
  simp only [C15_roots, docOf, List.mem_flatMap] at this
  rcases this with ⟨op, hop, hr⟩ | ⟨c', hc', ho⟩
  · left; exact ⟨op, ((C16_mem_iff cfg ops op).mp hop).1, ((C16_mem_iff cfg ops op).mp hop).2, hr⟩
  · right; exact ⟨c', hc', ho⟩

/-- **What the consumers of `Generate` see is the filtered and pruned document of the theorems above**: the stage list
`Gen/Pipeline.lean` is read from codegen.go on every run (harness/pipeline.go); run on the model's document it hands every
consumer — `OperationDefinitions` (server interface, router, client), the type definitions, the inlined specification — the
operations `filterDoc` keeps and, unless skip-prune is set, the components `prune` keeps for them. A filter moved behind the
pruning, behind a consumer, or dropped, breaks this proof. -/
theorem C16_pipeline_translated (cfg : Cfg) (skipPrune : Bool) (ops : List Op) (comps : List OapiVerif.Prune.Comp) :
    (Pipeline.seenByConsumers cfg skipPrune Gen.Pipeline.stages ⟨ops, comps⟩ false).map (fun s => (s.ops, s.comps)) =
      some (filterDoc cfg ops,
        if skipPrune then comps else (OapiVerif.Prune.prune (docOf cfg ops comps)).comps) := by
  cases skipPrune <;> rfl

/-- **The model's two filters are filter.go as it stands**: the translator (harness/filterrules.go) reads from the source which
configured list guards and feeds each pass, its exclude flag, the order of the passes and the comparison by which the two
workers remove an operation; running that description is `filterByTag` / `filterById`. An inclusion pass moved before the
exclusion pass, a guard on the wrong list, a flipped flag or a flipped comparison breaks this proof. -/
theorem C16_filter_translated (cfg : Cfg) (ops : List Op) :
    runPasses cfg (workerOf hasTag Gen.FilterRules.tagRemovesWhenEqual) Gen.FilterRules.tagPasses ops = filterByTag cfg ops ∧
    runPasses cfg (workerOf hasId Gen.FilterRules.idRemovesWhenEqual) Gen.FilterRules.idPasses ops = filterById cfg ops :=
  ⟨rfl, rfl⟩

def exOps : List Op :=
  [⟨"/a", "GET", ["a"], "OpA", ["#/components/schemas/A"]⟩,
   ⟨"/a", "POST", ["a", "b"], "OpB", ["#/components/schemas/B"]⟩,
   ⟨"/b", "GET", [], "OpC", []⟩]
example : (filterDoc ⟨["a"], ["b"], [], []⟩ exOps).map (·.id) = ["OpA"] := by decide +kernel
example : (filterDoc ⟨[], [], ["OpB", "OpC", "Nope"], ["OpC"]⟩ exOps).map (·.id) = ["OpB"] := by decide +kernel

end OapiVerif.Filter
