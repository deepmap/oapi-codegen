import OapiVerif.Proofs.Chain
import OapiVerif.Gen.C14
/-!
C14 — Every middleware wraps every operation, in the documented order.

Model: Model/Chain.lean (`handler = middleware(handler)` folds, gin's abort loop, strict chain).
Tie: TAB-by-RUN — `Gen/C14.lean` is the table of traces measured on the generated servers of all
seven flavours (per-operation and strict middlewares, every short-circuit position, both
compatibility flags, five operation kinds); `C14_table` re-checks it against `expected`.
-/
namespace OapiVerif.Chain

/-- The wrapper every flavour generates realises the documented order, for every list of
middlewares, whichever of them short-circuit. -/
theorem C14_wrapper_eq_documented (f : Flavour) (flag : Bool) (mws : List Mw) (op : Nat) :
    wrapperTrace f flag mws op = documentedTrace f flag mws op := by
  rw [wrapperTrace_eq_seq]
  cases f <;> cases flag <;> rfl  -- `documentedTrace` is `seq` of `perOpOrder`, flavour by flavour

/-- Default chi: last listed runs first, each exactly once, then the handler (gorilla and std-http the same: the
instances `.gorilla`, `.stdhttp` of `wrapperTrace_allPass`). -/
theorem C14_default_order (mws : List Mw) (op : Nat) (h : ∀ m ∈ mws, m.pass = true) :
    wrapperTrace .chi false mws op = mws.reverse.map (·.name) ++ [handlerTok op] :=
  wrapperTrace_allPass .chi false mws op h

/-- With the first-to-last compatibility flag: list order. -/
theorem C14_flag_order (mws : List Mw) (op : Nat) (h : ∀ m ∈ mws, m.pass = true) :
    wrapperTrace .chi true mws op = mws.map (·.name) ++ [handlerTok op] :=
  wrapperTrace_allPass .chi true mws op h

/-- gin: list order (fiber and iris the same: the instances `.fiber`, `.iris` of `wrapperTrace_allPass`). -/
theorem C14_gin_order (mws : List Mw) (op : Nat) (h : ∀ m ∈ mws, m.pass = true) :
    wrapperTrace .gin false mws op = mws.map (·.name) ++ [handlerTok op] :=
  wrapperTrace_allPass .gin false mws op h

/-- Each middleware runs exactly once and before the handler, which runs last. -/
theorem C14_each_once (mws : List Mw) (op : Nat) (h : ∀ m ∈ mws, m.pass = true) (m : Mw) (hm : m ∈ mws)
    (hn : (mws.map (·.name)).Nodup) (hh : ∀ x ∈ mws, x.name ≠ handlerTok op) :
    (seq mws op).count m.name = 1 := by
  rw [seq_allPass _ _ h, List.count_append, hn.count, if_pos (List.mem_map.mpr ⟨m, hm, rfl⟩),
    List.count_singleton, if_neg (by simpa using (hh m hm).symm)]

/-- A middleware that does not call its successor prevents the handler (and everything inside it)
from running. -/
theorem C14_short_circuit (pre : List Mw) (m : Mw) (post : List Mw) (op : Nat)
    (hpre : ∀ x ∈ pre, x.pass = true) (hm : m.pass = false)
    (hh : ∀ x ∈ pre ++ [m], x.name ≠ handlerTok op) :
    handlerTok op ∉ seq (pre ++ m :: post) op := by
  rw [seq_stop pre m post op hpre hm]
  intro hc
  simp only [List.mem_append, List.mem_map, List.mem_singleton] at hc
  rcases hc with ⟨x, hx, e⟩ | e
  · exact hh x (by simp [hx]) e
  · exact hh m (by simp) e.symm

/-- Strict middlewares: last listed runs first, every one receives the operation's identifier. -/
theorem C14_strict_order (mws : List Mw) (op : Nat) (h : ∀ m ∈ mws, m.pass = true) :
    strictTrace mws op = mws.reverse.map (fun m => strictTok op m.name) ++ [handlerTok op] := by
  simp only [strictTrace, run_buildFwd]
  rw [seq_allPass]
  · simp
  · intro m hm
    simp only [List.mem_reverse, List.mem_map] at hm
    obtain ⟨a, ha, rfl⟩ := hm
    exact h a ha

/-- TAB: every measured cell of the regenerated table shows the documented trace. -/
theorem C14_table : ∀ r ∈ Gen.C14.table, rowOk r = true := by
  -- chunk by chunk: the kernel would otherwise walk the left-nested `++` of the chunks again for every row
  unfold Gen.C14.table
  simp only [List.forall_mem_append, ← List.all_eq_true, ← Bool.and_eq_true]
  decide +kernel

example : wrapperTrace .chi false [⟨0, true⟩, ⟨1, true⟩] 3 = [1, 0, handlerTok 3] := by decide
example : wrapperTrace .gorilla true [⟨0, true⟩, ⟨1, false⟩, ⟨2, true⟩] 3 = [0, 1] := by decide
example : strictTrace [⟨0, true⟩, ⟨1, true⟩] 2 = [strictTok 2 1, strictTok 2 0, handlerTok 2] := by decide

end OapiVerif.Chain
