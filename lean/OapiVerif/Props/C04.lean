import OapiVerif.Proofs.Codec
import OapiVerif.Proofs.CodecSplit
import OapiVerif.Proofs.QueryParam
import OapiVerif.Proofs.DeepObject
/-!
C04 — Parameters survive the generated client → generated server round trip.

Model: Model/Escape.lean (net/url escaping), Model/Codec.lean (pinned runtime v1.1.0 at string
level). Tie: in-process CORR of every model function against net/url and the runtime on seeded
and malformed inputs (harness `corrCodec`), and RUN of the whole parameter shape space through
the generated client and the generated servers of all seven frameworks (harness `c04`).

The theorems are stated for the byte strings the styles carry; the typed layer behind them (integers, booleans, dates,
UUIDs: what the client renders is read back) is in the typed-layer sections of Props/C06.lean.
-/
namespace OapiVerif.Codec
open OapiVerif.Escape

/-- Escaping then unescaping is the identity for every byte string, in both modes: values with
space, '/', '?', '#', ':', non-ASCII bytes arrive unchanged. -/
theorem C04_escape_roundtrip (m : Mode) (s : Str) (hs : ∀ b ∈ s, b < 256) :
    unescape m (escape m s) = some s := unescape_escape m s hs

/-- Representability of an array value under a style. -/
structure ArrRepr (st : Style) (explode : Bool) (name : Str) (loc : Loc) (xs : List Str) : Prop where
  ne : xs ≠ []
  nodelim : ∀ x ∈ xs, arrDelim st explode ∉ x
  bytes : ∀ x ∈ xs, ∀ b ∈ x, b < 256
  namePlain : plainStr loc name
  nameNoDelim : arrDelim st explode ∉ name

/-- Arrays, styles simple / label / matrix (the styles the generated code binds with
`BindStyledParameterWithOptions`: path, header and cookie parameters). -/
theorem C04_array_roundtrip (st : Style) (hst : st ≠ .form) (explode required : Bool) (name : Str)
    (loc : Loc) (hloc : loc ≠ .undefined) (xs : List Str) (hR : ArrRepr st explode name loc xs)
    (hreq : required = true → styleParam st explode name loc (.arr xs) ≠ []) :
    bindStyled st explode required name loc .arr (styleParam st explode name loc (.arr xs))
      = .ok (.arr xs) :=
  bindStyled_arr_of hreq
    (styleParam_dec st explode name loc hloc (.arr xs) (primPrefix_plain st name loc hR.namePlain) hR.bytes).unesc
    (splitStyled_arr st hst explode name xs hR.ne hR.nodelim hR.nameNoDelim)

/-- Primitive values under `simple` (path default, header, cookie): any byte string arrives unchanged. -/
theorem C04_prim_roundtrip (explode required : Bool) (name : Str) (loc : Loc) (hloc : loc ≠ .undefined)
    (s : Str) (hb : ∀ b ∈ s, b < 256) (hreq : required = true → escLoc loc s ≠ []) :
    bindStyled .simple explode required name loc .prim (styleParam .simple explode name loc (.prim s))
      = .ok (.prim s) :=
  prim_roundtrip .simple explode required name loc hloc (plainStr_nil loc) s hb hreq

/-- The pinned runtime does not strip the `label` prefix for a primitive destination: a label-styled
primitive arrives with its leading dot. (Negative finding, proved for every value; replayed by the
harness as KNOWN-FINDING `roundtrip:*:path:schema:*/label/*:any`.) -/
theorem C04_label_prim_keeps_prefix (explode : Bool) (name : Str) (s : Str) (hb : ∀ b ∈ s, b < 256) :
    bindStyled .label explode true name .path .prim (styleParam .label explode name .path (.prim s))
      = .ok (.prim (cDot :: s)) :=
  prim_roundtrip .label explode true name .path (by decide) (plainStr_delim _).2.1 s hb
    (fun _ => List.cons_ne_nil _ _)

theorem C04_matrix_prim_keeps_prefix (explode : Bool) (name : Str) (hn : plainStr .path name) (s : Str)
    (hb : ∀ b ∈ s, b < 256) :
    bindStyled .matrix explode true name .path .prim (styleParam .matrix explode name .path (.prim s))
      = .ok (.prim (cSemi :: name ++ [cEq] ++ s)) :=
  prim_roundtrip .matrix explode true name .path (by decide) (primPrefix_plain _ name _ hn) s hb
    (fun _ => List.cons_ne_nil _ _)

structure ObjRepr (st : Style) (explode : Bool) (name : Str) (loc : Loc) (kvs : List (Str × Str)) : Prop where
  ne : kvs ≠ []
  keyPlain : ∀ kv ∈ kvs, plainStr loc kv.1
  keyNoDelim : ∀ kv ∈ kvs, arrDelim st explode ∉ kv.1
  valNoDelim : ∀ kv ∈ kvs, arrDelim st explode ∉ kv.2
  noEq : explode = true → ∀ kv ∈ kvs, cEq ∉ kv.1 ∧ cEq ∉ kv.2
  bytes : ∀ kv ∈ kvs, ∀ b ∈ kv.2, b < 256
  namePlain : plainStr loc name

/-- Flat objects, styles simple / label / matrix, exploded or not. -/
theorem C04_object_roundtrip (st : Style) (hst : st ≠ .form) (explode required : Bool) (name : Str)
    (loc : Loc) (hloc : loc ≠ .undefined) (kvs : List (Str × Str)) (hR : ObjRepr st explode name loc kvs)
    (hreq : required = true → styleParam st explode name loc (.obj kvs) ≠ []) :
    bindStyled st explode required name loc .obj (styleParam st explode name loc (.obj kvs))
      = .ok (.obj kvs) :=
  bindStyled_obj_of hreq
    (styleParam_dec st explode name loc hloc (.obj kvs) (primPrefix_plain st name loc hR.namePlain)
      (fun kv h => ⟨hR.keyPlain kv h, hR.bytes kv h⟩)).unesc
    (splitStyled_joined st hst explode true name _ (objParts_ne_nil explode .header kvs hR.ne)
      (objParts_nodelim explode _ (arrDelim_ne_eq st explode) kvs hR.keyNoDelim hR.valNoDelim) fun h => nomatch h)
    (partsToPairs_objParts explode kvs hR.noEq)

/-! Non-vacuity: concrete values satisfying the hypotheses, and the model computing on them. -/
example : ArrRepr .matrix true [105, 100] .path [[97, 32, 47], [98]] :=
  ⟨by decide, by decide, by decide, by decide, by decide⟩
example : (match bindStyled .matrix true true [105, 100] .path .arr
    (styleParam .matrix true [105, 100] .path (.arr [[97, 32, 47], [98]])) with
    | .ok v => v == .arr [[97, 32, 47], [98]] | .error _ => false) = true := by
  decide +kernel
example : ObjRepr .label true [118] .header [([97], [120, 32]), ([98], [121])] :=
  ⟨by decide, by decide, by decide, by decide, by decide, by decide, by decide⟩

/-! ### Query parameters (style form): client fragment → `url.ParseQuery` → `BindQueryParameter` -/

/-- A primitive query parameter, exploded or not, arrives as the value supplied (any bytes; the unexploded
form splits on commas, so the value must not contain one — the statement asks that of the exploded form as well, which does
not split). -/
theorem C04_query_prim_roundtrip (explode required : Bool) (name s : Str) (hn : Security.NameOk name)
    (hs : ∀ b ∈ s, b < 256) (hnc : cComma ∉ s) :
    ∃ q, parseQuery (styleParam .form explode name .query (.prim s)) = .ok q ∧
      bindQuery explode required name .prim [] q = .ok (some (.prim s)) :=
  ⟨_, Security.parseQuery_single (Security.QDec.plain hn) (Security.QDec.escape hs),
    Security.bindQuery_prim explode required name s hnc⟩

/-- An exploded array query parameter (`name=a&name=b`, the default): any bytes in the items. -/
theorem C04_query_array_exploded_roundtrip (required : Bool) (name : Str) (xs : List Str) (hn : Security.NameOk name)
    (hne : xs ≠ []) (hb : ∀ x ∈ xs, ∀ b ∈ x, b < 256) :
    ∃ q, parseQuery (styleParam .form true name .query (.arr xs)) = .ok q ∧
      bindQuery true required name .arr [] q = .ok (some (.arr xs)) :=
  ⟨_, Security.parse_form_array_exploded name xs hn hne hb, Security.bindQuery_array_exploded required name xs hne⟩

/-- An unexploded array query parameter (`name=a,b,c`): items without a comma. -/
theorem C04_query_array_unexploded_roundtrip (required : Bool) (name : Str) (xs : List Str) (hn : Security.NameOk name)
    (hne : xs ≠ []) (hb : ∀ x ∈ xs, ∀ b ∈ x, b < 256) (hnc : ∀ x ∈ xs, cComma ∉ x) :
    ∃ q, parseQuery (styleParam .form false name .query (.arr xs)) = .ok q ∧
      bindQuery false required name .arr [] q = .ok (some (.arr xs)) :=
  ⟨_, Security.parse_form_unexploded name (.arr xs) hn hb,
    Security.bindQuery_array_unexploded required name xs hne hnc⟩

/-- An exploded object query parameter (`k1=v1&k2=v2`, the default for objects): member names that need no
escaping, any bytes in the values. -/
theorem C04_query_object_exploded_roundtrip (required : Bool) (name : Str) (kvs : List (Str × Str)) (hne : kvs ≠ [])
    (hk : ∀ kv ∈ kvs, Security.NameOk kv.1) (hnd : (kvs.map (·.1)).Nodup) (hb : ∀ kv ∈ kvs, ∀ b ∈ kv.2, b < 256) :
    ∃ q, parseQuery (styleParam .form true name .query (.obj kvs)) = .ok q ∧
      bindQuery true required name .obj (kvs.map (·.1)) q = .ok (some (.obj kvs)) :=
  ⟨_, Security.parse_form_object_exploded name kvs hk hnd hb,
    Security.bindQuery_object_exploded required name kvs hne hnd⟩

example : Security.NameOk [118] := by decide

/-- An unexploded object query parameter (`name=k1,v1,k2,v2`): member names that need no escaping, names and values
without a comma, any other bytes in the values. -/
theorem C04_query_object_unexploded_roundtrip (required : Bool) (name : Str) (kvs : List (Str × Str)) (hne : kvs ≠ [])
    (hn : Security.NameOk name) (hk : ∀ kv ∈ kvs, Security.NameOk kv.1) (hkc : ∀ kv ∈ kvs, cComma ∉ kv.1)
    (hb : ∀ kv ∈ kvs, ∀ b ∈ kv.2, b < 256) (hvc : ∀ kv ∈ kvs, cComma ∉ kv.2) :
    ∃ q, parseQuery (styleParam .form false name .query (.obj kvs)) = .ok q ∧
      bindQuery false required name .obj [] q = .ok (some (.obj kvs)) :=
  ⟨_, Security.parse_form_unexploded name (.obj kvs) hn (fun kv h => ⟨hk kv h, hb kv h⟩),
    Security.bindQuery_object_unexploded required name kvs hne hkc hvc⟩

example : ∃ q, parseQuery (styleParam .form false [112] .query (.obj [([97], [49, 32, 38]), ([98], [])])) = .ok q ∧
    bindQuery false true [112] .obj [] q = .ok (some (.obj [([97], [49, 32, 38]), ([98], [])])) :=
  C04_query_object_unexploded_roundtrip true [112] _ (by simp) (by decide) (by decide) (by decide) (by decide) (by decide)

/-! ### deepObject (flat object of strings) -/

/-- A deepObject query parameter whose member names and values need no escaping arrives as the members
supplied (the pinned runtime escapes neither names nor values, hence the restriction). The binder returns the members sorted
by name; `DeepObject.roundtrip` is the statement for members in any order (`hsorted` of a given list: `List.mergeSort_of_pairwise`). -/
theorem C04_deepobject_roundtrip (name : Str) (kvs : List (Str × Str)) (hne : kvs ≠ []) (hn : Security.NameOk name)
    (hsorted : DeepObject.sortByKey kvs = kvs) (hnd : (kvs.map (·.1)).Nodup)
    (hk : ∀ kv ∈ kvs, Security.NameOk kv.1) (hv : ∀ kv ∈ kvs, Security.NameOk kv.2) :
    ∃ q, parseQuery (DeepObject.frag name kvs) = .ok q ∧ DeepObject.bind name q = .ok kvs := by
  have h := DeepObject.roundtrip name kvs hn hnd hk hv
  rwa [hsorted] at h

/-- Outside that restriction the value is cut: `v[a]=x&y` is read as member a = "x" plus a stray key "y"
(pinned runtime v1.1.0; recorded as a known finding, reproduced through the generated client). -/
theorem C04_deepobject_amp_witness :
    (parseQuery (DeepObject.oas [118] [([97], [120, 38, 121])])).toOption =
      some [([118, 91, 97, 93], [[120]]), ([121], [[]])] := by decide +kernel

end OapiVerif.Codec
