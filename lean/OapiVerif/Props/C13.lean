import OapiVerif.Proofs.Responses
import OapiVerif.Proofs.GoJson
import OapiVerif.Proofs.Form
import OapiVerif.Proofs.Bodies
import OapiVerif.Gen.MediaSwitch
import OapiVerif.Gen.BodyRules
/-!
C13 — Client response parsing fills the declared slot.

Model: Model/Responses.lean (`genResponseUnmarshal` as an ordered clause list, its evaluation).
Tie: CORR — the (condition, field) sequence of the emitted `switch` (parsed with go/ast from
`VerifGenResponseUnmarshal`) against `genCases` on seeded operations; RUN — `Parse<Op>Response` on
synthesised responses over the (status, Content-Type) matrix against `parse` and against the
statement's own oracle.
Below, each in its own namespace: the request bodies a typed client method sends — JSON (Model/GoJson.lean) and forms
(Model/Form.lean) — and `GenerateBodyDefinitions` with the body switch as it stands in the source (Model/Bodies.lean).
-/
namespace OapiVerif.Responses

/-- The precedence is emergent: the clause keys are sorted as strings, and for every status code
its own spelling sorts before its range's, which sorts before `default`. -/
theorem C13_key_order : ∀ n, n < 600 → 100 ≤ n →
    lexLt (RName.code n).str (RName.range (n / 100)).str = true ∧
    lexLt (RName.range (n / 100)).str RName.dflt.str = true := fun n _ _ => key_order n (n / 100)

/-- Precedence, stated on any strictly key-sorted clause list (as `genCases` produces, see
`C13_handled_sorted`): among the clauses whose Content-Type condition holds for the answer — provided
these share one key prefix, i.e. one media class — an exact status code takes precedence over a range
and a range over default. -/
theorem C13_precedence (cs : List Case) (hs : Sorted cs) (pre : Str) (s : Nat) (hs1 : 100 ≤ s) (hs2 : s < 600)
    (h : Str) (x : Case) (hx : x ∈ cs) (hxct : x.ct.holds h = true) (hxs : x.name.holds s = true)
    (hkey : ∀ y ∈ cs, y.ct.holds h = true → y.key = pre ++ y.name.str)
    (hinj : ∀ y ∈ cs, y.ct.holds h = true → y.name = x.name → y = x)
    (hpref : x.name = .code s ∨
             (x.name = .range (s / 100) ∧ ∀ y ∈ cs, y.ct.holds h = true → y.name ≠ .code s) ∨
             (x.name = .dflt ∧ ∀ y ∈ cs, y.ct.holds h = true → y.name ≠ .code s ∧ y.name ≠ .range (s / 100))) :
    firstMatch cs s h = some x := by
  unfold firstMatch
  apply find_sorted _ cs hs x hx (by simp [hxct, hxs])
  intro y hy hyp hne
  simp only [Bool.and_eq_true] at hyp
  obtain ⟨hyct, hys⟩ := hyp
  rw [hkey y hy hyct, hkey x hx hxct, lexLt_append_left]
  have ko := key_order s (s / 100)
  have hyn : y.name ≠ x.name := fun e => hne (hinj y hy hyct e)
  -- `y` is named by the code, the range or `default`; what `hpref` leaves of these comes after `x`
  have hy3 := holds_cases y.name s hys
  rcases hpref with p | ⟨p, q⟩ | ⟨p, q⟩
  · rcases hy3.resolve_left (p ▸ hyn) with e | e
    · rw [e, p]; exact ko.1
    · rw [e, p]; exact lexLt_trans _ _ _ ko.1 ko.2
  · rw [(hy3.resolve_left (q y hy hyct)).resolve_left (p ▸ hyn), p]; exact ko.2
  · exact absurd ((hy3.resolve_left (q y hy hyct).1).resolve_left (q y hy hyct).2) (p ▸ hyn)

/-- The handled clauses generated for any operation are strictly sorted by key (so
`C13_precedence` applies to them). -/
theorem C13_handled_sorted (l : List Case) : Sorted (l.foldl (fun m c => putCase c m) []) :=
  List.foldlRecOn l _ .nil fun acc h c _ => sorted_putCase c acc h

/-- At most one typed field is filled: the result of the switch is the field of one clause. -/
theorem C13_single_field (rs : List Resp) (s : Nat) (h : Str) (f : Str) (hp : parse rs s h = some f) :
    ∃ c ∈ genCases rs, c.field = some f ∧ c.ct.holds h = true ∧ c.name.holds s = true := by
  unfold parse at hp
  split at hp
  · next c hc =>
    have hm := List.mem_of_find?_eq_some hc
    have hpred := List.find?_some hc
    simp only [Bool.and_eq_true] at hpred
    exact ⟨c, hm, hp, hpred.1, hpred.2⟩
  · simp at hp

/-- No clause holds ⇒ no typed field (only Body and HTTPResponse, which are set before the switch). -/
theorem C13_undeclared_none (rs : List Resp) (s : Nat) (h : Str)
    (hn : ∀ c ∈ genCases rs, ¬(c.ct.holds h = true ∧ c.name.holds s = true)) : parse rs s h = none := by
  unfold parse
  rw [show firstMatch (genCases rs) s h = none from
    List.find?_eq_none.mpr fun c hc hp => hn c hc (Bool.and_eq_true_iff.mp hp)]

/-! Non-vacuity: 200 + 2XX + default, all application/json. -/
def exResps : List Resp :=
  [⟨.code 200, [⟨w "application/json", .json, true, w "JSON200"⟩]⟩,
   ⟨.range 2, [⟨w "application/json", .json, true, w "JSON2XX"⟩]⟩,
   ⟨.dflt, [⟨w "application/json", .json, true, w "JSONDefault"⟩]⟩]
-- here and below: the kernel is slow at decoding a `String` literal; the rewrite reads the characters off the literals
example : parse exResps 200 (w "application/json; charset=utf-8") = some (w "JSON200") := by
  unfold exResps w; repeat rw [String.toList_ofList]
  decide +kernel
example : parse exResps 204 (w "application/json") = some (w "JSON2XX") := by
  unfold exResps w; repeat rw [String.toList_ofList]
  decide +kernel
example : parse exResps 404 (w "application/json") = some (w "JSONDefault") := by
  unfold exResps w; repeat rw [String.toList_ofList]
  decide +kernel
example : parse exResps 200 (w "text/plain") = none := by
  unfold exResps w; repeat rw [String.toList_ofList]
  decide +kernel

/-! Negative findings (the full statement "exact over range over default, into the field of that
media type" is false of the generator in these corners; each is replayed by the harness and listed
in /verif/known-findings.txt). -/

/-- When one response declares several JSON media types (exact matching, key `9.<media type>.<name>`)
and a less specific one declares a single JSON media type (substring matching, key `9.json.<name>`),
the keys no longer share a prefix and the less specific clause can sort first: here status 200 with
`text/x-json` fills the 2XX field although 200 declares `text/x-json`. -/
def exMixed : List Resp :=
  [⟨.code 200, [⟨w "application/json", .json, true, w "JSON200"⟩, ⟨w "text/x-json", .json, true, w "TextxJSON200"⟩]⟩,
   ⟨.range 2, [⟨w "text/x-json", .json, true, w "TextxJSON2XX"⟩]⟩]

theorem C13_mixed_keys_witness : parse exMixed 200 (w "text/x-json") = some (w "TextxJSON2XX") := by
  unfold exMixed w; repeat rw [String.toList_ofList]
  decide +kernel

/-- Exact matching does not tolerate media type parameters. -/
theorem C13_exact_match_params_witness :
    parse exMixed 200 (w "application/json; charset=utf-8") ≠ some (w "JSON200") := by
  unfold exMixed w; repeat rw [String.toList_ofList]
  decide +kernel

/-- Substring matching is per media class, not per media type: 200 declares only problem+json, 2XX
declares text/x-json; an answer (200, text/x-json) is decoded into the 200 field. -/
def exSubstr : List Resp :=
  [⟨.code 200, [⟨w "application/problem+json", .json, true, w "ApplicationproblemJSON200"⟩]⟩,
   ⟨.range 2, [⟨w "text/x-json", .json, true, w "TextxJSON2XX"⟩]⟩]

theorem C13_substring_class_witness : parse exSubstr 200 (w "text/x-json") = some (w "ApplicationproblemJSON200") := by
  unfold exSubstr w; repeat rw [String.toList_ofList]
  decide +kernel

end OapiVerif.Responses

namespace OapiVerif.GoJson

/-- Last clause of C13 — the JSON request body a typed client method sends (`json.Marshal` of the value) is the faithful
encoding of the value: decoding it (`json.Unmarshal` into the same type, as the server does) gives the value back, for
every value of every well-formed type of the fragment, at any nesting depth. `stable` excludes the two kinds of value
that no JSON text distinguishes from another Go value (witnesses below). -/
theorem C13_json_body_decodes_to_value (t : GoTy) (v : GoVal) (hw : wf t = true) (ht : hasTy t v = true)
    (hs : stable t v = true) : ∃ j, encode t v = some j ∧ decode t j = some v := enc_dec t v hw ht hs

/-- … and such a body is never `null` unless the value is nil (an optional body that is present is not mistaken for an
absent one). -/
theorem C13_json_body_null_only_for_nil (t : GoTy) (v : GoVal) (j : JVal) (he : encode t v = some j)
    (hn : isNilV v = false) (hs : stable t v = true) : j ≠ .null := enc_ne_null t v j he hn hs

/-- Outside `stable`, first kind: an empty but non-nil slice in an `omitempty` member is left out and read back as nil. -/
theorem C13_empty_slice_under_omitempty_witness :
    (encode (.struct (.cons "xs" true (.slice .string) .nil)) (.struct [.slice []])).bind
      (decode (.struct (.cons "xs" true (.slice .string) .nil))) = some (.struct [.nilv]) := rfl

/-- Second kind: a non-nil pointer to a nil slice is written as `null` and read back as a nil pointer. -/
theorem C13_pointer_to_nil_witness :
    (encode (.ptr (.slice .string)) (.ptr .nilv)).bind (decode (.ptr (.slice .string))) = some .nilv := rfl

/-- Non-vacuity: a nested value with an optional member left out, a map and a 64-bit extreme meets the hypotheses. -/
example : let t := GoTy.struct (.cons "id" false int64 (.cons "tags" true (.ptr (.slice .string)) (.cons "m" false (.map uint8) .nil)))
    let v := GoVal.struct [.int 9223372036854775807, .nilv, .map [("a", .int 1), ("b", .int 255)]]
    wf t = true ∧ hasTy t v = true ∧ stable t v = true := by decide +kernel

end OapiVerif.GoJson

namespace OapiVerif.Form
open OapiVerif.IntParse

/-- Last clause of C13, form bodies: what the typed client builder sends for a flat body struct (`MarshalForm`: one pair
per member, a nil optional member left out) is read back by `BindForm` as that struct — strings unchanged, integers of
any width within their range, booleans. -/
theorem C13_form_body_decodes_to_value (fs : List Field) (vs : List (Option SVal)) (hnd : (fs.map (·.name)).Nodup)
    (hw : wellTyped fs vs = true) : bind (marshal fs vs) fs = some vs := bind_marshal fs vs hnd hw

/-- An optional member that is nil sends nothing, and nothing else is sent in its name. -/
theorem C13_form_nil_optional_absent (f : Field) (fs : List Field) (vs : List (Option SVal))
    (hnd : ((f :: fs).map (·.name)).Nodup) : lookup (marshal (f :: fs) (none :: vs)) f.name = none :=
  lookup_marshal_none fs vs f.name (List.nodup_cons.mp hnd).1

/-- Non-vacuity, and the shape of the pairs. -/
example : marshal [⟨wB "a", .str, false⟩, ⟨wB "n", .int 32, true⟩, ⟨wB "f", .bool, true⟩] [some (.str (wB "x y")), none, some (.bool true)] =
    [(wB "a", wB "x y"), (wB "f", wB "true")] := by decide

end OapiVerif.Form

namespace OapiVerif.Bodies

/-- `GenerateBodyDefinitions`: **one definition per declared media type** — none dropped, none invented, whatever order the
`content` map hands its keys out in — listed in ascending order of the media type. For every set of media types and
whatever `IsMediaTypeJson` / `mediaTypeToCamelCase` compute. -/
theorem C13_one_body_definition_per_media_type (E : Env) (cts : List Str) :
    ((bodyDefs E cts).map (·.contentType)).Perm cts ∧ (bodyDefs E cts).Pairwise Le := by
  have h := (sortBodies_perm (cts.map (mkBody E))).map (·.contentType)
  rw [List.map_map, show (·.contentType) ∘ mkBody E = id from funext (mkBody_ct E), List.map_id] at h
  exact ⟨h, sortBodies_sorted _⟩

/-- The typed client method without a suffix, and the unsuffixed `<Op>JSONRequestBody`, belong to `application/json` and to
nothing else: a definition is the default one exactly when its media type is `application/json`. -/
theorem C13_default_body_is_application_json (E : Env) (cts : List Str) (b : Body) (hb : b ∈ bodyDefs E cts) :
    b.dflt = true ↔ b.contentType = appJson := by
  unfold bodyDefs at hb
  obtain ⟨ct, _, rfl⟩ := List.mem_map.mp ((sortBodies_perm _).mem_iff.mp hb)
  rw [mkBody_ct]; exact mkBody_dflt E ct

/-- The names of the methods generated for two non-default bodies (`<Op>With<Tag>Body`) coincide exactly when their tags do. -/
theorem C13_method_suffix_injective_in_tag (a b : Body) (ha : a.dflt = false) (hb : b.dflt = false) :
    a.suffix = b.suffix ↔ a.tag = b.tag := by
  simp only [Body.suffix, ha, hb, Bool.false_eq_true, if_false, List.append_left_inj, List.append_right_inj]

/-- **The model's `classify` is the switch of `GenerateBodyDefinitions` as it stands in the source**: the translator
(harness/mediaswitch.go, go/ast) writes that switch into `Gen/MediaSwitch.lean` on every run; evaluating it the way Go does
(first clause whose condition holds) gives `classify`, for every media type and whatever `IsMediaTypeJson` /
`mediaTypeToCamelCase` compute. A clause added, removed, reordered or edited in operations.go breaks this proof. -/
theorem C13_body_switch_translated (E : Env) (ct : Str) :
    evalSwitch E Gen.MediaSwitch.bodySwitch ct = classify E ct := by
  -- evaluated arm by arm, the translated list is the `if` cascade of `classify`, literal for literal
  simp only [Gen.MediaSwitch.bodySwitch, evalSwitch, Cond.holds, decide_eq_true_eq]
  rfl

/-- **Which bodies get a typed request builder and which a typed strict-server body, as it stands in the source**
(`RequestBodyDefinition.IsSupportedByClient` / `IsSupported`, translated into `Gen/BodyRules.lean` on every run): the model's
`supportedByClient` / `supported`, for every body whose tag is the text `t`. -/
theorem C13_body_support_translated (E : Env) (b : Body) (t : String) (ht : b.tag = w t) :
    Gen.BodyRules.supportedByClient (E.isJson b.contentType) t = b.supportedByClient E ∧
    Gen.BodyRules.supported (E.isJson b.contentType) t = b.supported := by
  unfold Gen.BodyRules.supportedByClient Gen.BodyRules.supported Body.supportedByClient Body.supported
  rw [ht]
  have e3 : (t == "") = (w t).isEmpty := by
    rw [beq_eq_decide_w, show w "" = [] from rfl]; cases w t <;> rfl
  rw [beq_eq_decide_w t "Formdata", beq_eq_decide_w t "Text", e3]
  exact ⟨rfl, rfl⟩

def demoEnv : Env := ⟨fun ct => ct = appJson || (w "+json").isSuffixOf ct, fun _ => w "ApplicationVndApiPlusJSON"⟩

/-- non-vacuity and the recorded finding (C01 witness `two-multipart-request-media-types`): every media class gets its tag;
two `multipart/*` types of one operation share the tag `Multipart`, hence one type name declared twice. -/
theorem C13_body_tags_witness :
    (bodyDefs demoEnv [w "text/plain", w "application/vnd.api+json", w "application/json", w "image/png",
        w "multipart/form-data", w "application/x-www-form-urlencoded"]).map (fun b => (b.tag, b.dflt)) =
      [(w "JSON", true), (w "ApplicationVndApiPlusJSON", false), (w "Formdata", false), ([], false), (w "Multipart", false), (w "Text", false)] ∧
    (bodyDefs demoEnv [w "multipart/related", w "multipart/form-data"]).map (Body.typeName (w "Op")) =
      [w "OpMultipartRequestBody", w "OpMultipartRequestBody"] := by
  unfold w; repeat rw [String.toList_ofList]
  decide +kernel

end OapiVerif.Bodies
