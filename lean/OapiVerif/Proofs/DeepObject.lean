import OapiVerif.Model.DeepObject
import OapiVerif.Proofs.QueryParam
/-!
deepObject (flat object of strings): the fragment `MarshalDeepObject` writes is read back by `url.ParseQuery` and
`UnmarshalDeepObject` as the members supplied — for member names and values that need no escaping, because the
pinned runtime escapes neither (the witness shows what happens otherwise).
-/
namespace OapiVerif.DeepObject
open OapiVerif.Codec OapiVerif.Security

def keyOf (name : Str) (k : Str) : Str := name ++ [91] ++ k ++ [93]

theorem keyOf_inj (name a b : Str) (h : keyOf name a = keyOf name b) : a = b := by
  unfold keyOf at h
  simp only [List.append_assoc] at h
  have h1 := List.append_cancel_left h
  have h2 := List.append_cancel_left h1
  exact List.append_cancel_right h2

theorem memberOf_keyOf (name k : Str) : memberOf name (keyOf name k) = some k := by
  unfold memberOf keyOf
  rw [List.append_assoc (name ++ [91]), stripPrefix_append]
  exact (if_pos List.getLast?_concat).trans (congrArg some List.dropLast_concat)

theorem keyOf_nameOk {name k : Str} (hn : NameOk name) (hk : NameOk k) : NameOk (keyOf name k) := by
  intro b hb
  simp only [keyOf, List.mem_append, List.mem_singleton] at hb
  rcases hb with ((hb | hb) | hb) | hb
  · exact hn b hb
  · subst hb; decide
  · exact hk b hb
  · subst hb; decide

theorem bind_fields (name : Str) (kvs : List (Str × Str)) (acc : List (Str × Str)) :
    (kvs.map (fun kv => (keyOf name kv.1, [kv.2]))).foldlM (bindStep name) acc = .ok (acc ++ kvs) := by
  induction kvs generalizing acc with
  | nil => simp; rfl
  | cons kv t ih =>
    simp only [List.map_cons, List.foldlM_cons, bindStep, memberOf_keyOf]
    have := ih (acc ++ [(kv.1, kv.2)])
    simp only [List.append_assoc] at this
    exact this

/-- `UnmarshalDeepObject` reads the entries `name[k]` back as the members. -/
theorem bind_entries (name : Str) (kvs : List (Str × Str)) :
    bind name (kvs.map fun kv => (keyOf name kv.1, [kv.2])) = .ok kvs := by
  simpa [bind] using bind_fields name kvs []

/-- `url.ParseQuery` on what `MarshalDeepObject` writes for members that need no escaping: one entry `name[k]` per
member, in the order written. -/
theorem parse_fields (name : Str) (kvs : List (Str × Str)) (hn : NameOk name) (hnd : (kvs.map (·.1)).Nodup)
    (hk : ∀ kv ∈ kvs, NameOk kv.1) (hv : ∀ kv ∈ kvs, NameOk kv.2) :
    parseQuery (join [cAmp] (kvs.map (field name))) = .ok (kvs.map fun kv => (keyOf name kv.1, [kv.2])) := by
  have hp := parseQuery_join kvs (fun kv => keyOf name kv.1) (·.2) (fun kv => keyOf name kv.1) (·.2)
    (fun kv h => ⟨QDec.plain (keyOf_nameOk hn (hk kv h)), QDec.plain (hv kv h)⟩)
  have hf : kvs.map (field name) = kvs.map fun kv => keyOf name kv.1 ++ [61] ++ kv.2 :=
    List.map_congr_left fun kv _ => congrArg (· ++ kv.2) (List.append_assoc _ [93] [61]).symm
  rw [hf, hp, qAddAll_distinct _ [] ?_ (fun _ h => nomatch h), List.nil_append, List.map_map]
  · rfl
  · exact List.pairwise_map.mpr (List.pairwise_map.mpr
      ((List.pairwise_map.mp hnd).imp fun h heq => h (keyOf_inj name _ _ heq)))

theorem mem_of_mem_sortByKey {kvs : List (Str × Str)} {kv : Str × Str} (h : kv ∈ sortByKey kvs) : kv ∈ kvs := by
  obtain ⟨k, _, hf⟩ := List.mem_filterMap.mp h
  exact List.mem_of_find?_eq_some hf

theorem keys_sortByKey (kvs : List (Str × Str)) : (sortByKey kvs).map (·.1) = (kvs.map (·.1)).mergeSort Walks.kle := by
  unfold sortByKey
  generalize hl : (kvs.map (·.1)).mergeSort Walks.kle = l
  have hsub : ∀ k ∈ l, k ∈ kvs.map (·.1) := fun k hk => List.mem_mergeSort.mp (hl ▸ hk)
  clear hl
  induction l with
  | nil => rfl
  | cons k t ih =>
    obtain ⟨e, he, hek⟩ := List.mem_map.mp (hsub k List.mem_cons_self)
    obtain ⟨e', hf, -, hk⟩ := find?_of_mem (p := (·.1 = k)) he (decide_eq_true hek)
    rw [List.filterMap_cons, hf, List.map_cons, of_decide_eq_true hk, ih fun x hx => hsub x (List.mem_cons_of_mem _ hx)]

/-- **The deepObject round trip**: for members with distinct names, names and values that need no escaping, what the client
writes (`MarshalDeepObject`, members by sorted name) is read by `url.ParseQuery` and `UnmarshalDeepObject` as the members, by
sorted name. -/
theorem roundtrip (name : Str) (kvs : List (Str × Str)) (hn : NameOk name) (hnd : (kvs.map (·.1)).Nodup)
    (hk : ∀ kv ∈ kvs, NameOk kv.1) (hv : ∀ kv ∈ kvs, NameOk kv.2) :
    ∃ q, parseQuery (frag name kvs) = .ok q ∧ bind name q = .ok (sortByKey kvs) :=
  ⟨_, parse_fields name (sortByKey kvs) hn
      (keys_sortByKey kvs ▸ (List.mergeSort_perm _ _).nodup_iff.mpr hnd)
      (fun kv h => hk kv (mem_of_mem_sortByKey h)) (fun kv h => hv kv (mem_of_mem_sortByKey h)),
    bind_entries name (sortByKey kvs)⟩

end OapiVerif.DeepObject
