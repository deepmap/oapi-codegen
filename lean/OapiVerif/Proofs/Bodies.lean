import OapiVerif.Model.Bodies
import OapiVerif.Proofs.Order
namespace OapiVerif.Bodies
open Responses

theorem insertCt_perm (b : Body) (l : List Body) : (insertCt b l).Perm (b :: l) := by
  -- the cases of `insertCt`: empty; `c` sorts before `b` (`b` goes further down); `b` goes in front
  fun_induction insertCt b l with
  | case1 => exact .refl _
  | case2 c rest hlt ih => exact (ih.cons c).trans (.swap b c rest)
  | case3 c rest hnlt => exact .refl _

theorem sortBodies_perm (bs : List Body) : (sortBodies bs).Perm bs := by
  unfold sortBodies
  induction bs with
  | nil => exact List.Perm.refl _
  | cons b t ih => exact (insertCt_perm b _).trans (List.Perm.cons b ih)

/-- ascending or equal by media type -/
def Le (a b : Body) : Prop := lexLt b.contentType a.contentType = false

theorem Le.trans {a b c : Body} (h1 : Le a b) (h2 : Le b c) : Le a c := by
  have iff : ∀ x y : Body, Le x y ↔ Walks.kle x.contentType y.contentType = true := fun x y => by
    simp [Le, Walks.kle, Walks.klt]
  exact (iff a c).mpr (Walks.kle_trans _ _ _ ((iff a b).mp h1) ((iff b c).mp h2))

theorem insertCt_sorted (b : Body) (l : List Body) (h : l.Pairwise Le) : (insertCt b l).Pairwise Le := by
  fun_induction insertCt b l with
  | case1 => exact List.pairwise_singleton _ _
  | case2 c rest hlt ih =>
    obtain ⟨hc, hr⟩ := List.pairwise_cons.mp h
    refine List.pairwise_cons.mpr ⟨fun x hx => ?_, ih hr⟩
    exact (List.mem_cons.mp ((insertCt_perm b rest).mem_iff.mp hx)).elim (· ▸ lexLt_asymm _ _ hlt) (hc x)
  | case3 c rest hnlt =>
    have hbc : Le b c := (Bool.not_eq_true _).mp hnlt
    exact List.pairwise_cons.mpr
      ⟨fun x hx => (List.mem_cons.mp hx).elim (· ▸ hbc) fun hx => hbc.trans ((List.pairwise_cons.mp h).1 x hx), h⟩

theorem sortBodies_sorted (bs : List Body) : (sortBodies bs).Pairwise Le := by
  unfold sortBodies
  induction bs with
  | nil => simp
  | cons b t ih => exact insertCt_sorted b _ ih

theorem mkBody_ct (E : Env) (ct : Str) : (mkBody E ct).contentType = ct := by
  fun_cases mkBody E ct <;> rfl

theorem mkBody_dflt (E : Env) (ct : Str) : (mkBody E ct).dflt = true ↔ ct = appJson := by
  unfold mkBody
  fun_cases classify E ct with
  | case1 h => exact iff_of_true rfl h
  | _ h1 => exact iff_of_false Bool.false_ne_true h1

theorem w_inj (a b : String) (h : w a = w b) : a = b :=
  String.ext ((List.map_inj_right fun _ _ hxy => Char.ext (UInt32.toNat_inj.mp hxy)).mp h)

/-- Go compares the tag as a string, the model as the list of its code points. -/
theorem beq_eq_decide_w (t s : String) : (t == s) = decide (w t = w s) :=
  decide_eq_decide.mpr ⟨congrArg w, w_inj t s⟩

end OapiVerif.Bodies
