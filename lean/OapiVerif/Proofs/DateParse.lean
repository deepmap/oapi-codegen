import OapiVerif.Model.DateParse
/-! `time.Parse("2006-01-02")` accepts exactly the one spelling `Format` writes for a date that exists
(`parse_eq_some_iff`); the work is decimal digits written and read back. -/
namespace OapiVerif.DateParse

theorem daysIn_le (y m : Nat) : daysIn y m ≤ 31 := by
  fun_cases daysIn y m <;> decide  -- 29, 28, 30, 31 or 0

/-! ### one decimal digit at a time

`dig n` writes the last digit of `n`; the reader takes `c - 48` for the value of a digit `c` and builds numbers by
`q * 10 + value`. The lemmas below say that the two undo each other one digit at a time; the fields of a date are
two and four such steps. (`unfold dig; omega` proves each of them, at about eight times the cost of the `rw` chains.) -/

theorem dig_isDigit (n : Nat) : isDigit (dig n) = true := by
  have h2 : 48 + n % 10 ≤ 57 := Nat.add_le_add_left (Nat.le_of_lt_succ (Nat.mod_lt n (by decide))) 48
  simp [isDigit, dig, h2]

theorem dig_sub_of_lt {n : Nat} (h : n < 10) : dig n - 48 = n := by
  unfold dig; rw [Nat.add_sub_cancel_left, Nat.mod_eq_of_lt h]

theorem div_mul_add_dig (n : Nat) : n / 10 * 10 + (dig n - 48) = n := by
  unfold dig; rw [Nat.add_sub_cancel_left]; exact Nat.div_add_mod' n 10

theorem dig_mul_add {c : Nat} (q : Nat) (h : isDigit c = true) :
    dig (q * 10 + (c - 48)) = c ∧ (q * 10 + (c - 48)) / 10 = q := by
  simp only [isDigit, Bool.and_eq_true, decide_eq_true_eq] at h
  have hv : c - 48 < 10 := Nat.sub_lt_left_of_lt_add h.1 (Nat.lt_succ_of_le h.2)
  unfold dig
  rw [Nat.mul_comm, Nat.mul_add_mod, Nat.mul_add_div (by decide), Nat.mod_eq_of_lt hv, Nat.div_eq_of_lt hv]
  exact ⟨Nat.add_sub_cancel' h.1, Nat.add_zero q⟩

theorem dig_sub {c : Nat} (h : isDigit c = true) : dig (c - 48) = c := by
  have := (dig_mul_add 0 h).1
  rwa [Nat.zero_mul, Nat.zero_add] at this

theorem horner4 (a b c d : Nat) : a * 1000 + b * 100 + c * 10 + d = ((a * 10 + b) * 10 + c) * 10 + d := by
  rw [Nat.add_mul, Nat.add_mul, Nat.add_mul, Nat.mul_assoc, Nat.mul_assoc, Nat.mul_assoc]

theorem div_100 (y : Nat) : y / 100 = y / 10 / 10 := (Nat.div_div_eq_div_mul y 10 10).symm
theorem div_1000 (y : Nat) : y / 1000 = y / 10 / 10 / 10 := by rw [Nat.div_div_eq_div_mul, Nat.div_div_eq_div_mul]

theorem write2 (m : Nat) (h : m < 100) : (dig (m / 10) - 48) * 10 + (dig m - 48) = m := by
  rw [dig_sub_of_lt (Nat.div_lt_of_lt_mul h), div_mul_add_dig]

theorem write4 (y : Nat) (h : y < 10000) :
    (dig (y / 1000) - 48) * 1000 + (dig (y / 100) - 48) * 100 + (dig (y / 10) - 48) * 10 + (dig y - 48) = y := by
  rw [horner4, dig_sub_of_lt (Nat.div_lt_of_lt_mul h), div_1000, div_100, div_mul_add_dig, div_mul_add_dig, div_mul_add_dig]

theorem read2 {e f : Nat} (he : isDigit e = true) (hf : isDigit f = true) :
    dig (((e - 48) * 10 + (f - 48)) / 10) = e ∧ dig ((e - 48) * 10 + (f - 48)) = f := by
  rw [(dig_mul_add _ hf).2]
  exact ⟨dig_sub he, (dig_mul_add _ hf).1⟩

-- `y` stands for the number so that `div_1000`, `div_100` rewrite `y / 1000`, `y / 100` and not inside it
theorem read4 {a b c d : Nat} (ha : isDigit a = true) (hb : isDigit b = true) (hc : isDigit c = true) (hd : isDigit d = true)
    {y : Nat} (hy : y = (a - 48) * 1000 + (b - 48) * 100 + (c - 48) * 10 + (d - 48)) :
    dig (y / 1000) = a ∧ dig (y / 100) = b ∧ dig (y / 10) = c ∧ dig y = d := by
  rw [div_1000, div_100, hy, horner4, (dig_mul_add _ hd).2, (dig_mul_add _ hc).2, (dig_mul_add _ hb).2]
  exact ⟨dig_sub ha, (dig_mul_add _ hb).1, (dig_mul_add _ hc).1, (dig_mul_add _ hd).1⟩

theorem parse_eq_some_iff (s : Str) (t : Date) : parse s = some t ↔ t.valid = true ∧ format t = s := by
  constructor
  · -- the cases of `parse`: ten characters that pass the test; ten that do not; another length
    fun_cases parse s with
    | case1 a b c d h1 e f h2 g i hc =>
      intro h
      simp only [Bool.and_eq_true, beq_iff_eq] at hc
      obtain ⟨⟨⟨⟨⟨⟨⟨⟨⟨rfl, rfl⟩, ha⟩, hb⟩, hcc⟩, hd⟩, he⟩, hf⟩, hg⟩, hi⟩ := hc
      obtain ⟨hv, ⟨⟩⟩ := Option.ite_none_right_eq_some.mp h
      obtain ⟨y1, y2, y3, y4⟩ := read4 ha hb hcc hd rfl
      obtain ⟨m1, m2⟩ := read2 he hf
      obtain ⟨d1, d2⟩ := read2 hg hi
      exact ⟨hv, by simp only [format, y1, y2, y3, y4, m1, m2, d1, d2]⟩
    | case2 => exact nofun
    | case3 => exact nofun
  · rintro ⟨hv, rfl⟩
    obtain ⟨y, m, d⟩ := t
    have h := hv
    simp only [Date.valid, Bool.and_eq_true, decide_eq_true_eq] at h
    obtain ⟨⟨⟨⟨hy, _⟩, hm⟩, _⟩, hd⟩ := h
    have hd := Nat.le_trans hd (daysIn_le y m)
    unfold parse
    simp only [format, dig_isDigit, Nat.reduceBEq, Bool.and_self, if_true,
      write4 y (Nat.lt_succ_of_le hy), write2 m (Nat.lt_of_le_of_lt hm (by decide)),
      write2 d (Nat.lt_of_le_of_lt hd (by decide)), accept, hv]
end OapiVerif.DateParse
