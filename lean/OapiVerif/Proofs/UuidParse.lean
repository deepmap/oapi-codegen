import OapiVerif.Model.UuidParse
/-! `uuid.Parse (u.String()) = u`: a run of bytes written in hex is read back at every second position from wherever the run
starts (`mapM_byteAt_hexBytes`); the canonical text is five such runs with hyphens between them. Where something stands is said
by `s.drop p`, what stands in `s` from position `p` on. -/
namespace OapiVerif.UuidParse

theorem hexVal_hexDigit : ∀ n < 16, hexVal (hexDigit n) = some n := by decide

/-- the character that stands at position `p`, and what follows it -/
theorem getElem?_of_drop {s t : Str} {p c : Nat} (h : s.drop p = [c] ++ t) : s[p]? = some c ∧ s.drop (p + 1) = t :=
  ⟨(List.getElem?_drop (j := 0)).symm.trans (by rw [h]; rfl), by rw [← List.drop_drop, h]; rfl⟩

theorem byteAt_hexByte {s t : Str} {p b : Nat} (hb : b < 256) (h : s.drop p = hexByte b ++ t) : byteAt s p = some b := by
  obtain ⟨e0, k⟩ := getElem?_of_drop h
  obtain ⟨e1, -⟩ := getElem?_of_drop k
  simp only [byteAt, e0, e1, hexVal_hexDigit (b / 16) (Nat.div_lt_of_lt_mul hb),
    hexVal_hexDigit (b % 16) (Nat.mod_lt _ (by decide))]
  exact congrArg some (Nat.div_add_mod' b 16)

theorem hexBytes_cons (b : Nat) (bs : List Nat) : hexBytes (b :: bs) = hexByte b ++ hexBytes bs := List.flatMap_cons

theorem hexBytes_length (bs : List Nat) : (hexBytes bs).length = 2 * bs.length := by
  induction bs with
  | nil => rfl
  | cons b bs ih =>
    rw [hexBytes_cons, List.length_append, ih, List.length_cons, Nat.mul_succ, Nat.add_comm]; rfl

/-- a run of `n` bytes written in hex from position `p` on is read back by `byteAt` at every second position, and what follows it
stands from `p + 2 * n` on -/
theorem mapM_byteAt_hexBytes {s t : Str} {p n : Nat} {bs : List Nat} (h : s.drop p = hexBytes bs ++ t)
    (hb : ∀ x ∈ bs, x < 256) (hn : bs.length = n) :
    (List.range' p n 2).mapM (byteAt s) = some bs ∧ s.drop (p + 2 * n) = t := by
  subst hn
  induction bs generalizing p with
  | nil => exact ⟨rfl, h⟩
  | cons b bs ih =>
    rw [hexBytes_cons, List.append_assoc] at h
    have ⟨r, k⟩ := ih (p := p + 2) (by rw [← List.drop_drop, h]; rfl) fun x hx => hb x (List.mem_cons_of_mem _ hx)
    rw [List.length_cons, List.range'_succ, List.mapM_cons, byteAt_hexByte (hb b (List.mem_cons_self ..)) h, r]
    exact ⟨rfl, by rwa [Nat.mul_succ, ← Nat.add_assoc, Nat.add_right_comm]⟩

theorem parse_canonical (s : Str) (h : s.length = 36) : parse s = parseCanon s := by
  unfold parse; rw [h]; rfl

/-- A list is the five fields `render` writes: 4, 2, 2, 2 bytes and the rest (6 of 16). -/
theorem fields_append (bs : List Nat) :
    bs.take 4 ++ (bs.drop 4).take 2 ++ (bs.drop 6).take 2 ++ (bs.drop 8).take 2 ++ bs.drop 10 = bs := by
  rw [← List.take_add, ← List.take_add, ← List.take_add, List.take_append_drop]

/-- The canonical text is read back: `offsets` is the five runs of hex digits, each read back where it stands
(`mapM_byteAt_hexBytes`), and positions 8, 13, 18, 23 hold the hyphens. -/
theorem parseCanon_render (bs : List Nat) (hl : bs.length = 16) (hb : ∀ x ∈ bs, x < 256) :
    parseCanon (render bs) = some bs := by
  have hg (k n : Nat) : ∀ x ∈ (bs.drop k).take n, x < 256 := fun x hx => hb x (List.mem_of_mem_drop (List.mem_of_mem_take hx))
  have ng (k n : Nat) (h : k + n ≤ 16) : ((bs.drop k).take n).length = n := by
    rw [List.length_take, List.length_drop, hl]; exact Nat.min_eq_left (Nat.le_sub_of_add_le' h)
  generalize hs : render bs = s
  simp only [render, List.append_assoc] at hs
  -- a walk along the text: `k` is what stands from the position reached on
  obtain ⟨r0, k⟩ := mapM_byteAt_hexBytes (p := 0) hs.symm (hg 0 4) (ng 0 4 (by decide))
  obtain ⟨d0, k⟩ := getElem?_of_drop (p := 8) k
  obtain ⟨r1, k⟩ := mapM_byteAt_hexBytes (p := 9) k (hg 4 2) (ng 4 2 (by decide))
  obtain ⟨d1, k⟩ := getElem?_of_drop (p := 13) k
  obtain ⟨r2, k⟩ := mapM_byteAt_hexBytes (p := 14) k (hg 6 2) (ng 6 2 (by decide))
  obtain ⟨d2, k⟩ := getElem?_of_drop (p := 18) k
  obtain ⟨r3, k⟩ := mapM_byteAt_hexBytes (p := 19) k (hg 8 2) (ng 8 2 (by decide))
  obtain ⟨d3, k⟩ := getElem?_of_drop (p := 23) k
  obtain ⟨r4, -⟩ := mapM_byteAt_hexBytes (p := 24) (k.trans (List.append_nil _).symm)
    (fun x hx => hb x (List.mem_of_mem_drop hx)) (by rw [List.length_drop, hl])
  have ho : offsets = List.range' 0 4 2 ++ List.range' 9 2 2 ++ List.range' 14 2 2 ++ List.range' 19 2 2 ++ List.range' 24 6 2 := rfl
  conv => rhs; rw [← fields_append bs]
  simp only [parseCanon, d0, d1, d2, d3, ho, List.mapM_append, r0, r1, r2, r3, r4]
  rfl

/-- `String()` then `Parse`: every 16-byte value is read back. -/
theorem parse_render (bs : List Nat) (hl : bs.length = 16) (hb : ∀ x ∈ bs, x < 256) : parse (render bs) = some bs := by
  have hlen : (render bs).length = 36 := by
    simp only [render, List.length_append, hexBytes_length, List.length_take, List.length_drop, hl]
    rfl
  -- not `unfold parse`: closing the goal against `parseCanon_render` then makes the unifier unfold `parseCanon` on both sides
  rw [parse_canonical _ hlen]
  exact parseCanon_render bs hl hb

end OapiVerif.UuidParse
