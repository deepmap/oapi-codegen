import OapiVerif.Model.EnumClash
/-!
`GenerateEnums`' flags (Model/EnumClash.lean). A pass only raises flags (`Le`, pointwise `All₂ Le`). The inner loop has two
closed forms: with `e1` flagged it flags exactly the later enums that clash with it (`inner_of_pre`), and if `e1` leaves it
unflagged nothing clashed and nothing changed (`inner_of_not_pre`); the one-pass results and the shape of a fixpoint are read
off these. Raising a flag lowers the number of unprefixed enums, so repeating the pass reaches a fixpoint.
-/
namespace OapiVerif.EnumClash

/-- `b` is `a` with the flag possibly raised -/
def Le (a b : E) : Prop := b.ty = a.ty ∧ b.names = a.names ∧ (a.pre = true → b.pre = true)

theorem Le.refl (a : E) : Le a a := ⟨rfl, rfl, id⟩
theorem Le.trans {a b c : E} (h₁ : Le a b) (h₂ : Le b c) : Le a c :=
  ⟨h₂.1.trans h₁.1, h₂.2.1.trans h₁.2.1, fun h => h₂.2.2 (h₁.2.2 h)⟩

theorem le_setPre (a : E) : Le a a.setPre := ⟨rfl, rfl, fun _ => rfl⟩

theorem Le.eq_or {a b : E} (h : Le a b) : b = a ∨ (a.pre = false ∧ b.pre = true) := by
  cases a with | mk ta na pa => cases b with | mk tb nb pb =>
  obtain ⟨rfl, rfl, hp⟩ : tb = ta ∧ nb = na ∧ (pa = true → pb = true) := h
  match pa, pb, hp with
  | true, true, _ | false, false, _ => exact .inl rfl
  | false, true, _ => exact .inr ⟨rfl, rfl⟩
  | true, false, hp => exact absurd (hp rfl) Bool.false_ne_true

theorem not_pre_of_le {a b : E} (h : Le a b) (hb : b.pre = false) : a.pre = false :=
  Bool.eq_false_iff.mpr fun hp => Bool.false_ne_true (hb ▸ h.2.2 hp)

theorem le_antisymm {a b : E} (h₁ : Le a b) (h₂ : Le b a) : a = b :=
  h₁.eq_or.elim Eq.symm fun h => absurd (not_pre_of_le h₂ h.1) (by rw [h.2]; exact Bool.noConfusion)

theorem vals_of_not_pre {uc : Str → Str} {e : E} (h : e.pre = false) : e.vals uc = e.names := by
  simp [E.vals, h]

/-- pointwise relation of two lists (core has no `Forall₂`) -/
inductive All₂ (R : E → E → Prop) : List E → List E → Prop
  | nil : All₂ R [] []
  | cons {a b : E} {l₁ l₂ : List E} : R a b → All₂ R l₁ l₂ → All₂ R (a :: l₁) (b :: l₂)

theorem All₂.length_eq {R : E → E → Prop} {l₁ l₂ : List E} (h : All₂ R l₁ l₂) : l₁.length = l₂.length := by
  induction h with
  | nil => rfl
  | cons _ _ ih => simp [ih]

theorem all₂_mem_right {R : E → E → Prop} {l₁ l₂ : List E} (h : All₂ R l₁ l₂) :
    ∀ b ∈ l₂, ∃ a ∈ l₁, R a b := by
  induction h with
  | nil => intro b hb; cases hb
  | cons hab _ ih =>
    intro b hb
    rcases List.mem_cons.mp hb with rfl | hb
    · exact ⟨_, List.mem_cons_self, hab⟩
    · obtain ⟨a, ha, hr⟩ := ih b hb
      exact ⟨a, List.mem_cons_of_mem _ ha, hr⟩

theorem all₂_le_refl (l : List E) : All₂ Le l l := by
  induction l with
  | nil => exact All₂.nil
  | cons a l ih => exact All₂.cons (Le.refl a) ih

theorem all₂_le_trans {l₁ l₂ l₃ : List E} (h₁ : All₂ Le l₁ l₂) (h₂ : All₂ Le l₂ l₃) : All₂ Le l₁ l₃ := by
  induction h₁ generalizing l₃ with
  | nil => cases h₂; exact All₂.nil
  | cons hab _ ih => cases h₂ with | cons hbc htl => exact All₂.cons (hab.trans hbc) (ih htl)

theorem all₂_le_antisymm {l₁ l₂ : List E} (h₁ : All₂ Le l₁ l₂) (h₂ : All₂ Le l₂ l₁) : l₁ = l₂ := by
  induction h₁ with
  | nil => rfl
  | cons hab _ ih => cases h₂ with | cons hba htl => rw [le_antisymm hab hba, ih htl]

theorem all₂_le_map_key {l l' : List E} (h : All₂ Le l l') :
    l'.map (fun e => (e.ty, e.names)) = l.map (fun e => (e.ty, e.names)) := by
  induction h with
  | nil => rfl
  | cons hab _ ih => rw [List.map_cons, List.map_cons, hab.1, hab.2.1, ih]

def Disj (a b : E) : Prop := ∀ k, k ∈ a.names → k ∉ b.names

theorem Disj.congr {a b a' b' : E} (h : Disj a b) (ha : a'.names = a.names) (hb : b'.names = b.names) :
    Disj a' b' := by
  unfold Disj; rw [ha, hb]; exact h

theorem disj_of_not_clash {uc : Str → Str} {a b : E} (ha : a.pre = false) (hb : b.pre = false)
    (h : clash uc a b = false) : Disj a b := by
  intro k hk hk'
  have : clash uc a b = true := by
    simp only [clash, vals_of_not_pre ha, vals_of_not_pre hb, List.any_eq_true]
    exact ⟨k, hk, by simpa using hk'⟩
  simp [h] at this

theorem inner_fst_le (uc : Str → Str) (e1 : E) (r : List E) : Le e1 (inner uc e1 r).1 := by
  -- the cases of `inner`: no later enum left; the next one clashes; it does not
  fun_induction inner uc e1 r with
  | case1 e1 => exact Le.refl e1
  | case2 e1 _ _ _ ih => exact (le_setPre e1).trans ih
  | case3 _ _ _ _ ih => exact ih

theorem inner_snd_all₂ (uc : Str → Str) (e1 : E) (r : List E) : All₂ Le r (inner uc e1 r).2 := by
  fun_induction inner uc e1 r with
  | case1 => exact .nil
  | case2 _ e2 _ _ ih => exact .cons (le_setPre e2) ih
  | case3 _ e2 _ _ ih => exact .cons (Le.refl e2) ih

theorem inner_snd_length (uc : Str → Str) (e1 : E) (r : List E) : (inner uc e1 r).2.length = r.length :=
  (inner_snd_all₂ uc e1 r).length_eq.symm

/-- **The inner loop when `e1` is already flagged**: its copy no longer changes, so every later enum is compared with `e1`
itself, and flagged exactly when it clashes. -/
theorem inner_of_pre (uc : Str → Str) {e1 : E} (h : e1.pre = true) (r : List E) :
    inner uc e1 r = (e1, r.map fun b => if clash uc e1 b then b.setPre else b) := by
  fun_induction inner uc e1 r with
  | case1 => rfl
  | case2 e1 e2 r hc ih =>
    have hs : e1.setPre = e1 := by cases e1; cases h; rfl
    rw [hs] at ih; rw [hs, ih h, List.map_cons, if_pos hc]
  | case3 e1 e2 r hc ih => rw [ih h, List.map_cons, if_neg hc]

/-- **The inner loop when `e1` leaves it unflagged**: nothing clashed with it (a clash flags the copy for good), so
nothing was changed. -/
theorem inner_of_not_pre (uc : Str → Str) (e1 : E) (r : List E) (h : (inner uc e1 r).1.pre = false) :
    inner uc e1 r = (e1, r) ∧ ∀ b ∈ r, clash uc e1 b = false := by
  fun_induction inner uc e1 r with
  | case1 => exact ⟨rfl, fun _ hb => nomatch hb⟩
  | case2 e1 e2 r hc ih => exact nomatch not_pre_of_le (inner_fst_le uc e1.setPre r) h
  | case3 e1 e2 r hc ih =>
    obtain ⟨he, hall⟩ := ih h
    exact ⟨by rw [he], List.forall_mem_cons.mpr ⟨(Bool.not_eq_true _).mp hc, hall⟩⟩

theorem inner_disj (uc : Str → Str) (e1 : E) (r : List E) (h : (inner uc e1 r).1.pre = false) :
    ∀ b ∈ (inner uc e1 r).2, b.pre = false → Disj e1 b := by
  obtain ⟨he, hall⟩ := inner_of_not_pre uc e1 r h
  rw [he] at h ⊢
  exact fun b hb hbp => disj_of_not_clash h hbp (hall b hb)

theorem le_markTy (types : List Str) (e : E) : Le e (markTy types e) := by
  unfold markTy; split
  · exact le_setPre e
  · exact Le.refl e

theorem le_markOwn (uc : Str → Str) (e : E) : Le e (markOwn uc e) := by
  unfold markOwn; split
  · exact le_setPre e
  · exact Le.refl e

theorem le_finish (uc : Str → Str) (types : List Str) (e : E) : Le e (finish uc types e) :=
  (le_markTy types e).trans (le_markOwn uc _)

theorem finish_not_pre {uc : Str → Str} {types : List Str} {e : E} (h : (finish uc types e).pre = false) :
    e.pre = false ∧ (∀ t ∈ types, t ∉ e.names) ∧ e.ty ∉ e.names := by
  have hp : e.pre = false := not_pre_of_le (le_finish uc types e) h
  have hm : (markTy types e).pre = false := not_pre_of_le (le_markOwn uc _) h
  have ht : tyClash types e = false := by
    cases ht : tyClash types e with
    | false => rfl
    | true => simp [markTy, ht, E.setPre] at hm
  refine ⟨hp, fun t htm hn => List.any_eq_false.mp ht t htm (List.contains_iff_mem.mpr hn), fun hmem => ?_⟩
  have : (finish uc types e).pre = true := by
    simp [finish, markTy, ht, markOwn, vals_of_not_pre hp, hmem, E.setPre]
  simp [h] at this

theorem outerN_all₂ (uc : Str → Str) (types : List Str) (n : Nat) (l : List E) :
    All₂ Le l (outerN uc types n l) := by
  -- the cases of `outerN`: out of fuel; no enum left; `e1` against `rest`
  fun_induction outerN uc types n l with
  | case1 l => exact all₂_le_refl l
  | case2 => exact .nil
  | case3 _ e1 rest ih =>
    exact .cons ((inner_fst_le uc e1 rest).trans (le_finish uc types _)) (all₂_le_trans (inner_snd_all₂ uc e1 rest) ih)

theorem resolve_le (uc : Str → Str) (types : List Str) (l : List E) : All₂ Le l (resolve uc types l) :=
  outerN_all₂ uc types l.length l

/-- The pass by its own recursion: the fuel of `outerN` is the length, which the inner loop keeps. -/
theorem resolve_cons (uc : Str → Str) (types : List Str) (e1 : E) (rest : List E) :
    resolve uc types (e1 :: rest) =
      finish uc types (inner uc e1 rest).1 :: resolve uc types (inner uc e1 rest).2 := by
  rw [resolve, resolve, inner_snd_length]; rfl

theorem resolve_ind (uc : Str → Str) {motive : List E → Prop} (nil : motive [])
    (cons : ∀ e1 rest, motive (inner uc e1 rest).2 → motive (e1 :: rest)) (l : List E) : motive l := by
  generalize hn : l.length = n
  -- along `outerN` (any `types`) with the length as fuel: then it is out of fuel only on the empty list
  fun_induction outerN uc [] n l with
  | case1 l => exact List.eq_nil_of_length_eq_zero hn ▸ nil
  | case2 => exact nil
  | case3 n e1 rest ih => exact cons e1 rest (ih (by rw [inner_snd_length]; exact Nat.succ.inj hn))

theorem resolve_pairwise (uc : Str → Str) (types : List Str) (l : List E) :
    (resolve uc types l).Pairwise fun a b => a.pre = false → b.pre = false → Disj a b := by
  induction l using resolve_ind uc with
  | nil => exact .nil
  | cons e1 rest ih =>
    rw [resolve_cons]
    refine .cons ?_ ih
    intro b hb hhead hbp
    -- `b` comes from an element of inner's rest with the same names and a flag no higher
    obtain ⟨a, ha, hab⟩ := all₂_mem_right (resolve_le uc types (inner uc e1 rest).2) b hb
    exact (inner_disj uc e1 rest (finish_not_pre hhead).1 a ha (not_pre_of_le hab hbp)).congr
      ((inner_fst_le uc e1 rest).trans (le_finish uc types _)).2.1 hab.2.1

theorem resolve_mem_unprefixed (uc : Str → Str) (types : List Str) (l : List E) :
    ∀ b ∈ resolve uc types l, b.pre = false → (∀ t ∈ types, t ∉ b.names) ∧ b.ty ∉ b.names := by
  induction l using resolve_ind uc with
  | nil => intro b hb; cases hb
  | cons e1 rest ih =>
    rw [resolve_cons]
    intro b hb hbp
    rcases List.mem_cons.mp hb with rfl | hb
    · have hle := le_finish uc types (inner uc e1 rest).1
      rw [hle.1, hle.2.1]
      exact (finish_not_pre hbp).2
    · exact ih b hb hbp

theorem all₂_le_eq_or_lt {l l' : List E} (h : All₂ Le l l') :
    l' = l ∨ l'.countP (!·.pre) < l.countP (!·.pre) := by
  induction h with
  | nil => exact .inl rfl
  | @cons a b l₁ l₂ hab _ ih =>
    have hle : l₂.countP (!·.pre) ≤ l₁.countP (!·.pre) := ih.elim (fun e => e ▸ Nat.le_refl _) Nat.le_of_lt
    rcases hab.eq_or with rfl | ⟨ha, hb⟩
    · refine ih.imp (congrArg _) fun h => ?_
      rw [List.countP_cons, List.countP_cons]; exact Nat.add_lt_add_right h _
    · right
      rw [List.countP_cons, List.countP_cons, ha, hb]
      exact Nat.lt_succ_of_le hle

theorem iter_fix {α : Type} {f : α → α} {x : α} (h : f x = x) (n : Nat) : iter f n x = x := by
  induction n with
  | zero => rfl
  | succ n ih => rw [iter, h, ih]

theorem iter_reaches_fixpoint {α : Type} (f : α → α) (μ : α → Nat) (hf : ∀ x, f x = x ∨ μ (f x) < μ x) (n : Nat) :
    ∀ x : α, μ x ≤ n → f (iter f n x) = iter f n x := by
  induction n with
  | zero => exact fun x hn => (hf x).resolve_right fun h => Nat.not_lt_zero _ (Nat.le_zero.mp hn ▸ h)
  | succ n ih =>
    intro x hn
    rcases hf x with h | h
    · rw [iter_fix h]; exact h
    · exact ih (f x) (Nat.le_of_lt_succ (Nat.lt_of_lt_of_le h hn))

theorem inner_fix {uc : Str → Str} {e1 : E} {r : List E} (h : inner uc e1 r = (e1, r)) :
    ∀ b ∈ r, clash uc e1 b = true → e1.pre = true ∧ b.pre = true := by
  intro b hb hcb
  cases hp : e1.pre with
  | false =>
    have := (inner_of_not_pre uc e1 r (by rw [h]; exact hp)).2 b hb
    rw [hcb] at this; cases this
  | true =>
    -- every later enum that clashes was flagged, and the loop changed nothing
    rw [inner_of_pre uc hp] at h
    have := List.map_inj_left.mp ((Prod.ext_iff.mp h).2.trans (List.map_id r).symm) b hb
    rw [if_pos hcb] at this
    exact ⟨rfl, by rw [show b = b.setPre from this.symm]; rfl⟩

theorem resolve_fix_pairwise (uc : Str → Str) (types : List Str) (l : List E) (h : resolve uc types l = l) :
    l.Pairwise fun a b => clash uc a b = true → a.pre = true ∧ b.pre = true := by
  induction l using resolve_ind uc with
  | nil => exact .nil
  | cons e1 rest ih =>
    rw [resolve_cons] at h
    obtain ⟨hh, ht⟩ := List.cons.inj h
    -- squeeze: e1 ≤ e1' ≤ finish e1' = e1 and rest ≤ rest' ≤ resolve rest' = rest
    have h1 := le_finish uc types (inner uc e1 rest).1
    have h2 := resolve_le uc types (inner uc e1 rest).2
    rw [hh] at h1; rw [ht] at h2
    have he1 : (inner uc e1 rest).1 = e1 := (le_antisymm (inner_fst_le uc e1 rest) h1).symm
    have hrest : (inner uc e1 rest).2 = rest := (all₂_le_antisymm (inner_snd_all₂ uc e1 rest) h2).symm
    rw [hrest] at ht ih
    exact .cons (inner_fix (Prod.ext he1 hrest)) (ih ht)

end OapiVerif.EnumClash
