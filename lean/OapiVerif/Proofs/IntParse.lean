import OapiVerif.Model.IntParse
import OapiVerif.Model.Enums
/-!
`strconv`'s decimal text read back: `itoa` is `Nat.toDigits`, which the digit fold of `parseNat` inverts; with the sign and
the range test, `parseInt bits ∘ renderInt` is the identity on the destination's range and refuses everything else.
-/
namespace OapiVerif.IntParse

theorem itoa_eq (k : Nat) : itoa k = (Nat.toDigits 10 k).map Char.toNat := by
  unfold itoa; exact congrArg _ Nat.toList_repr

theorem itoa_digits (k : Nat) : (itoa k).all isDigit = true := by
  rw [itoa_eq, List.all_eq_true]
  intro c hc
  obtain ⟨ch, hl, rfl⟩ := List.mem_map.mp hc
  have hd := Nat.isDigit_of_mem_toDigits (by decide) (by decide) hl
  simp only [Char.isDigit, Bool.and_eq_true, decide_eq_true_eq] at hd
  simp only [isDigit, Bool.and_eq_true, decide_eq_true_eq]
  exact ⟨UInt32.le_iff_toNat_le.mp hd.1, UInt32.le_iff_toNat_le.mp hd.2⟩

theorem itoa_ne_nil (k : Nat) : itoa k ≠ [] := by
  rw [itoa_eq]; simp

theorem parseNat_itoa (k : Nat) : parseNat (itoa k) = some k := by
  unfold parseNat
  simp only [List.isEmpty_eq_false_iff.mpr (itoa_ne_nil k), itoa_digits k, Bool.not_true, Bool.or_self, Bool.false_eq_true, if_false, Option.some.injEq]
  rw [itoa_eq, List.foldl_map]
  have h := @Nat.ofDigitChars_toDigits 10 k (by decide) (by decide)
  rw [Nat.ofDigitChars_eq_foldl] at h
  exact h  -- `'0'.toNat` is 48

/-- the sign and the digits of a rendered integer, as `parseInt` takes them apart -/
theorem render_parts (v : Int) : isNeg (renderInt v) = decide (v < 0) ∧ body (renderInt v) = itoa v.natAbs := by
  by_cases hv : v < 0
  · simp [renderInt, hv, isNeg, body]
  · -- the first digit is not taken for a sign
    cases hcr : itoa v.natAbs with
    | nil => exact absurd hcr (itoa_ne_nil _)
    | cons c r =>
      have hc := List.all_eq_true.mp (itoa_digits v.natAbs) c (hcr ▸ List.mem_cons_self)
      simp only [isDigit, Bool.and_eq_true, decide_eq_true_eq] at hc
      have h45 : c ≠ 45 := fun e => absurd (e ▸ hc.1) (by decide)
      have h43 : c ≠ 43 := fun e => absurd (e ▸ hc.1) (by decide)
      simp [renderInt, hv, isNeg, body, hcr, h45, h43]

theorem parse_render_eq (bits : Nat) (v : Int) :
    parseInt bits (renderInt v) = if InRange bits v then .ok v else .error .rejected := by
  have hval : signed (decide (v < 0)) v.natAbs = v := by
    unfold signed
    by_cases hv : v < 0
    · rw [if_pos (decide_eq_true hv), Int.ofNat_natAbs_of_nonpos (Int.le_of_lt hv), Int.neg_neg]
    · rw [if_neg (hv ∘ of_decide_eq_true), Int.natAbs_of_nonneg (Int.not_lt.mp hv)]
  unfold parseInt
  rw [(render_parts v).1, (render_parts v).2, parseNat_itoa]
  simp only [finish, hval]

/-- what the client renders, the server reads back — for every value of the destination's range -/
theorem parseInt_render (bits : Nat) (v : Int) (h : InRange bits v) : parseInt bits (renderInt v) = .ok v := by
  rw [parse_render_eq, if_pos h]

theorem parseNat_of_not_digit {ds : Str} {c : Nat} (hc : c ∈ ds) (hnd : isDigit c = false) : parseNat ds = none := by
  have : ds.all isDigit = false := List.all_eq_false.mpr ⟨c, hc, by simp [hnd]⟩
  simp [parseNat, this]

theorem mem_body {s : Str} {c : Nat} (hc : c ∈ s) (h45 : c ≠ 45) (h43 : c ≠ 43) : c ∈ body s := by
  fun_cases body s with
  | case1 hs =>  -- a sign in front: the tail
    cases s with
    | nil => exact hc
    | cons x r => exact (List.mem_cons.mp hc).elim (fun e => by simp [← e, h45, h43] at hs) id
  | case2 => exact hc

theorem inRange_of_parseInt {bits : Nat} {s : Str} {v : Int} (h : parseInt bits s = .ok v) : InRange bits v := by
  unfold parseInt finish at h
  split at h
  · cases h
  · split at h
    · next hr => cases h; exact hr
    · cases h

theorem parseBool_renderBool : ∀ b, parseBool (renderBool b) = some b := by decide +kernel

/-- only the twelve spellings of `strconv.ParseBool` are accepted -/
theorem mem_texts_of_parseBool {s : Str} {b : Bool} :
    parseBool s = some b → s ∈ (if b then trueTexts else falseTexts) := by
  -- the cases of `parseBool`: a true spelling, a false spelling, neither
  fun_cases parseBool s with
  | case1 hc => exact fun h => Option.some.inj h ▸ List.contains_iff_mem.mp hc
  | case2 _ hc => exact fun h => Option.some.inj h ▸ List.contains_iff_mem.mp hc
  | case3 => exact nofun

end OapiVerif.IntParse

namespace OapiVerif.Enums

/-- the decimal rendering of a number determines it: it is read back (`IntParse.itoa` is the same function) -/
theorem itoa_inj (a b : Nat) (h : itoa a = itoa b) : a = b :=
  Option.some.inj ((IntParse.parseNat_itoa a).symm.trans ((congrArg IntParse.parseNat h).trans (IntParse.parseNat_itoa b)))

end OapiVerif.Enums
