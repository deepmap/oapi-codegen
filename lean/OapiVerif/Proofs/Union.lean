import OapiVerif.Model.Union
import OapiVerif.Proofs.Assoc
/-! The discriminator table as a map: which element's Go type stands under a value after all elements have written theirs. -/
namespace OapiVerif.Union

theorem lookup_insert (m : List (String × String)) (k v k' : String) :
    lookup (insert m k v) k' = if k = k' then some v else lookup m k' :=
  (congrArg (Assoc.get · k') (Assoc.set_eq_alter m k v)).trans (Assoc.get_alter _ m k k')

theorem foldl_insert_lookup (m : List (String × String)) (ks : List String) (v : String) (k : String) :
    lookup (ks.foldl (fun m k => insert m k v) m) k = if k ∈ ks then some v else lookup m k := by
  induction ks generalizing m with
  | nil => simp
  | cons a t ih =>
    rw [List.foldl_cons, ih, lookup_insert]
    by_cases hk : k ∈ t
    · simp [hk]
    · by_cases ha : a = k
      · simp [ha]
      · simp [hk, ha, Ne.symm ha]

theorem table_lookup (explicit : Mapping) (name goType : String → String) (elements : List String) (m0 : List (String × String))
    (k : String) :
    lookup (elements.foldl (fun m r => (elementEntries explicit name r).foldl (fun m k => insert m k (goType r)) m) m0) k =
      ((elements.reverse.find? fun r => k ∈ elementEntries explicit name r).map goType).or (lookup m0 k) := by
  induction elements generalizing m0 with
  | nil => rfl
  | cons r rest ih =>
    rw [List.foldl_cons, ih, List.reverse_cons, List.find?_append, foldl_insert_lookup, Option.map_or, Option.or_assoc]
    -- the later elements come first on both sides; then `r` itself
    refine congrArg _ ?_
    by_cases hk : k ∈ elementEntries explicit name r <;> simp [hk]

/-- **The last element that claims a value gets it**; a value no element claims is not in the table. -/
theorem dispatch_table (explicit : Mapping) (name goType : String → String) (elements : List String) (k : String) :
    dispatch (table explicit name goType elements) k =
      (elements.reverse.find? fun r => k ∈ elementEntries explicit name r).map goType :=
  (table_lookup explicit name goType elements [] k).trans Option.or_none

theorem mem_elementEntries {explicit : Mapping} {k ref : String} (name : String → String) (h : (k, ref) ∈ explicit) :
    k ∈ elementEntries explicit name ref := by
  have : k ∈ (explicit.filter (·.2 = ref)).map (·.1) :=
    List.mem_map.mpr ⟨(k, ref), List.mem_filter.mpr ⟨h, decide_eq_true rfl⟩, rfl⟩
  rw [elementEntries, if_neg fun he => List.ne_nil_of_mem this (List.isEmpty_iff.mp he)]
  exact this

theorem elementEntries_unmapped {explicit : Mapping} {ref : String} (name : String → String)
    (h : ∀ k, (k, ref) ∉ explicit) : elementEntries explicit name ref = [name ref] := by
  have : explicit.filter (·.2 = ref) = [] :=
    List.filter_eq_nil_iff.mpr fun e he hr => h e.1 (of_decide_eq_true hr ▸ he)
  rw [elementEntries, this]; rfl

end OapiVerif.Union
