import OapiVerif.Model.GoJson
import OapiVerif.Proofs.Assoc
/-!
The encoding/json fragment: `decode` and `encode` are a bijection between the valid canonical JSON values of a well-formed type
and its stable Go values. `Rep t j v` says that `j` and `v` are each other's image; its rules, one per way a value is built, are
proved once, and `rep_of_valid` / `rep_of_stable` (every valid `j`, every stable `v` is in the relation) only choose the rule.

`stable` excludes exactly the two kinds of value that do not come back as themselves: a non-nil pointer to a nil
pointer/slice/map (written as `null`, read as a nil pointer), and an empty but non-nil slice or map in a field tagged
`omitempty` (left out, read as nil).
-/
namespace OapiVerif.GoJson

theorem lookup_cons (k : String) (j : JVal) (m : List (String × JVal)) (n : String) :
    lookup ((k, j) :: m) n = if k = n then some j else lookup m n := Assoc.get_cons (k, j) m n

theorem decodeFields_skip : ∀ (fs : Fields) (k : String) (j : JVal) (m : List (String × JVal)),
    (names fs).contains k = false → decodeFields fs ((k, j) :: m) = decodeFields fs m
  | .nil => fun _ _ _ _ => rfl
  | .cons n om t rest => fun k j m h => by
    simp only [names, List.contains_cons, Bool.or_eq_false_iff, beq_eq_false_iff_ne] at h
    rw [decodeFields, decodeFields, lookup_cons, if_neg h.1, decodeFields_skip rest k j m h.2]

theorem mapM_all {α β} (f : α → Option β) (p : α → Bool) (q : β → Bool)
    (h : ∀ x y, p x = true → f x = some y → q y = true) :
    ∀ (l : List α) (r : List β), l.all p = true → l.mapM f = some r → r.all q = true := by
  intro l
  induction l with
  | nil => intro r _ hr; cases hr; rfl
  | cons x t ih =>
    intro r hl hr
    rw [List.mapM_cons] at hr
    obtain ⟨y, hx, hr⟩ := Option.bind_eq_some_iff.mp hr
    obtain ⟨ys, ht, hr⟩ := Option.bind_eq_some_iff.mp hr
    cases hr
    rw [List.all_cons, Bool.and_eq_true] at hl ⊢
    exact ⟨h x y hl.1 hx, ih ys hl.2 ht⟩

theorem all_and {α} (p q : α → Bool) (l : List α) (hp : l.all p = true) (hq : l.all q = true) :
    l.all (fun x => p x && q x) = true := by
  simp only [List.all_eq_true, Bool.and_eq_true] at *
  exact fun x hx => ⟨hp x hx, hq x hx⟩

/-- a pointwise choice, as a list of pairs -/
theorem exists_pairs {α β} {R : α → β → Prop} : ∀ l : List α, (∀ x ∈ l, ∃ y, R x y) →
    ∃ ps : List (α × β), ps.map (·.1) = l ∧ ∀ p ∈ ps, R p.1 p.2 := by
  intro l h
  induction l with
  | nil => exact ⟨[], rfl, nofun⟩
  | cons x t ih =>
    obtain ⟨y, hy⟩ := h x List.mem_cons_self
    obtain ⟨ps, rfl, hps⟩ := ih fun x hx => h x (List.mem_cons_of_mem _ hx)
    exact ⟨(x, y) :: ps, rfl, List.forall_mem_cons.mpr ⟨hy, hps⟩⟩

theorem all_map {σ α} (q : α → Bool) (a : σ → α) (ps : List σ) (h : ∀ p ∈ ps, q (a p) = true) :
    (ps.map a).all q = true :=
  List.all_eq_true.mpr (List.forall_mem_map.mpr h)

theorem mapM_encode_decode {α β} (p : α → Bool) (f : α → Option β) (g : β → Option α)
    (h : ∀ x, p x = true → ∃ j, f x = some j ∧ g j = some x) (l : List α) (hl : l.all p = true) :
    ∃ js, l.mapM f = some js ∧ js.mapM g = some l := by
  obtain ⟨ps, rfl, hps⟩ := exists_pairs l fun x hx => h x (List.all_eq_true.mp hl x hx)
  exact ⟨_, mapM_map_eq_some f _ _ ps fun q hq => (hps q hq).1, mapM_map_eq_some g _ _ ps fun q hq => (hps q hq).2⟩

/-- whether the keys are sorted is a matter of the keys -/
theorem sortedKeys_map {σ} (k : σ → String) (a : σ → JVal) (b : σ → GoVal) : ∀ ps : List σ,
    sortedKeys (ps.map fun p => (k p, a p)) = sortedKeysV (ps.map fun p => (k p, b p))
  | [] | [_] => rfl
  | p :: q :: ps => congrArg (decide (k p < k q) && ·) (sortedKeys_map k a b (q :: ps))

mutual
theorem hasTy_zero : ∀ t : GoTy, wf t = true → hasTy t (zero t) = true
  | .int _ _, h => h
  | .struct fs, h => hasTyFields_zeros fs h
  | .bool, _ | .string, _ | .ptr _, _ | .slice _, _ | .map _, _ => rfl

theorem hasTyFields_zeros : ∀ fs : Fields, wfFields fs = true → hasTyFields fs (zeros fs) = true
  | .nil, _ => rfl
  | .cons n om t rest, h => by
    simp only [wfFields, Bool.and_eq_true] at h
    exact Bool.and_eq_true_iff.mpr ⟨hasTy_zero t h.1.2, hasTyFields_zeros rest h.2⟩
end

theorem lossyEmpty_zero (t : GoTy) : lossyEmpty (zero t) = false := by cases t <;> rfl

mutual
theorem stable_zero : ∀ t : GoTy, stable t (zero t) = true
  | .bool | .int _ _ | .string | .ptr _ | .slice _ | .map _ => rfl
  | .struct fs => stableFields_zeros fs

theorem stableFields_zeros : ∀ fs : Fields, stableFields fs (zeros fs) = true
  | .nil => rfl
  | .cons n om t rest => by
    show (!(om && lossyEmpty (zero t)) && stable t (zero t) && stableFields rest (zeros rest)) = true
    rw [lossyEmpty_zero, stable_zero t, stableFields_zeros rest, Bool.and_false]; rfl
end

theorem wfFields_cons {n : String} {om : Bool} {t : GoTy} {rest : Fields} : wfFields (.cons n om t rest) = true ↔
    ((names rest).contains n = false ∧ wf t = true) ∧ wfFields rest = true := by
  show (!(names rest).contains n && wf t && wfFields rest) = true ↔ _
  rw [Bool.and_eq_true, Bool.and_eq_true, Bool.not_eq_true']

theorem stableFields_cons {n : String} {om : Bool} {t : GoTy} {rest : Fields} {v : GoVal} {vs : List GoVal} :
    stableFields (.cons n om t rest) (v :: vs) = true ↔
      ((om && lossyEmpty v) = false ∧ stable t v = true) ∧ stableFields rest vs = true := by
  show (!(om && lossyEmpty v) && stable t v && stableFields rest vs) = true ↔ _
  rw [Bool.and_eq_true, Bool.and_eq_true, Bool.not_eq_true']

theorem decode_ptr {t : GoTy} {j : JVal} (h : j ≠ .null) : decode (.ptr t) j = (decode t j).map .ptr := by
  cases j
  case null => exact absurd rfl h
  all_goals rfl

theorem valid_ptr {t : GoTy} {j : JVal} (h : j ≠ .null) : valid (.ptr t) j = valid t j := by
  cases j
  case null => exact absurd rfl h
  all_goals rfl

theorem kept_ptr {t : GoTy} {j : JVal} (h : j ≠ .null) : keptByOmitempty (.ptr t) j = true := by
  cases j
  case null => exact absurd rfl h
  all_goals rfl

theorem stable_ptr {t : GoTy} {v : GoVal} : stable (.ptr t) (.ptr v) = true ↔ isNilV v = false ∧ stable t v = true := by
  show (!isNilV v && stable t v) = true ↔ _
  rw [Bool.and_eq_true, Bool.not_eq_true']

theorem encode_nilv {t : GoTy} {j : JVal} (h : encode t .nilv = some j) : j = .null := by
  cases t
  case ptr | slice | map => exact (Option.some.inj h).symm
  all_goals cases h

theorem lossy_is_empty (v : GoVal) (h : lossyEmpty v = true) : isEmpty v = true := by
  cases v
  case slice | map => exact h
  all_goals cases h

/-- An `omitempty` field that is left out held the zero value, unless it was an empty non-nil slice or map. -/
theorem empty_is_zero (t : GoTy) (v : GoVal) (ht : hasTy t v = true) (he : isEmpty v = true) (hl : lossyEmpty v = false) :
    v = zero t := by
  revert ht
  -- the cases are the equations of `hasTy`, in their order
  fun_cases hasTy t v
  case case1 b => cases b with
    | false => exact fun _ => rfl
    | true => cases he
  case case2 lo hi n => exact fun _ => congrArg GoVal.int (eq_of_beq he)
  case case3 s => exact fun _ => congrArg GoVal.str (eq_of_beq he)
  case case4 | case6 | case8 => exact fun _ => rfl
  case case5 | case10 => cases he
  case case7 | case9 => exact nomatch he.symm.trans hl
  case case11 => exact fun h => nomatch h

/-- `json.Marshal` writes `null` for a value that is not nil only if it is a pointer to something written as `null` (`hp`
excludes that). -/
theorem encode_ne_null (t : GoTy) (v : GoVal) (j : JVal) (he : encode t v = some j) (hn : isNilV v = false)
    (hp : ∀ t' w, v = .ptr w → t = .ptr t' → encode t' w ≠ some .null) : j ≠ .null := by
  rintro rfl
  revert he
  -- the cases are the equations of `encode`, in their order: 4, 6, 8 write nil, 5 a pointer, 7, 9, 10 a container
  fun_cases encode t v
  case case5 => exact hp _ _ rfl rfl
  case case4 | case6 | case8 => cases hn
  case case7 | case9 | case10 => exact fun h => by obtain ⟨_, -, h'⟩ := Option.map_eq_some_iff.mp h; cases h'
  all_goals exact fun h => nomatch h

/-- A stable value that is not nil is not written as `null`. -/
theorem enc_ne_null : ∀ (t : GoTy) (v : GoVal) (j : JVal), encode t v = some j → isNilV v = false → stable t v = true →
    j ≠ .null
  | .ptr t => fun v j he hn hs => encode_ne_null _ v j he hn fun t' w hv ht h => by
    cases ht; subst hv
    obtain ⟨hn', hs'⟩ := stable_ptr.mp hs
    exact enc_ne_null t w .null h hn' hs' rfl
  | .bool | .int _ _ | .string | .slice _ | .map _ | .struct _ => fun v j he hn _ =>
    encode_ne_null _ v j he hn fun _ _ _ ht => nomatch ht

theorem encodeFields_names : ∀ (fs : Fields) (vs : List GoVal) (js : List (String × JVal)),
    encodeFields fs vs = some js → ∀ kv ∈ js, kv.1 ∈ names fs
  | .nil => fun vs js h kv hkv => by cases vs <;> cases h; cases hkv
  | .cons n om t rest => fun vs js h => by
    cases vs with
    | nil => cases h
    | cons v vs =>
      change (if om && isEmpty v then _ else _) = _ at h
      split at h
      · exact fun kv hkv => List.mem_cons_of_mem _ (encodeFields_names rest vs js h kv hkv)
      · split at h
        · rename_i j js' _ hr
          cases h
          intro kv hkv
          rcases List.mem_cons.mp hkv with rfl | hkv
          · exact List.mem_cons_self
          · exact List.mem_cons_of_mem _ (encodeFields_names rest vs js' hr kv hkv)
        · cases h

/-- `j` is the canonical JSON text of the Go value `v` of type `t`, and `v` is what `j` decodes to. -/
structure Rep (t : GoTy) (j : JVal) (v : GoVal) : Prop where
  dec : decode t j = some v
  enc : encode t v = some j
  ok : valid t j = true
  typed : hasTy t v = true
  stab : stable t v = true
  /-- what `omitempty` keeps on the way back is what `keptByOmitempty` accepts on the way in; it follows from the other
  components, and is carried along because every rule has it for nothing while recovering it takes a case analysis -/
  kept : keptByOmitempty t j = !isEmpty v

structure RepFields (fs : Fields) (m : List (String × JVal)) (vs : List GoVal) : Prop where
  dec : decodeFields fs m = some vs
  enc : encodeFields fs vs = some m
  ok : validFields fs m = true
  typed : hasTyFields fs vs = true
  stab : stableFields fs vs = true

section rules
variable {t : GoTy} {j : JVal} {v : GoVal} {n : String} {om : Bool} {fs rest : Fields} {m : List (String × JVal)}
  {vs : List GoVal}

theorem Rep.bool (b : Bool) : Rep .bool (.bool b) (.bool b) := ⟨rfl, rfl, rfl, rfl, rfl, (Bool.not_not b).symm⟩

theorem Rep.str (s : String) : Rep .string (.str s) (.str s) := ⟨rfl, rfl, rfl, rfl, rfl, rfl⟩

theorem Rep.int {lo hi n : Int} (h : lo ≤ n ∧ n ≤ hi) : Rep (.int lo hi) (.num n) (.int n) :=
  ⟨if_pos h, rfl, decide_eq_true h, decide_eq_true h, rfl, rfl⟩

theorem Rep.ptrNil (t : GoTy) : Rep (.ptr t) .null .nilv := ⟨rfl, rfl, rfl, rfl, rfl, rfl⟩

theorem Rep.sliceNil (t : GoTy) : Rep (.slice t) .null .nilv := ⟨rfl, rfl, rfl, rfl, rfl, rfl⟩

theorem Rep.mapNil (t : GoTy) : Rep (.map t) .null .nilv := ⟨rfl, rfl, rfl, rfl, rfl, rfl⟩

-- `encode` and `hasTy` at a pointer are those of the pointee by definition; rewriting with the equations of these
-- mutual functions instead is ten times as dear to check
theorem Rep.ptr (h : Rep t j v) (hj : j ≠ .null) (hn : isNilV v = false) : Rep (.ptr t) j (.ptr v) where
  dec := (decode_ptr hj).trans (congrArg (·.map GoVal.ptr) h.dec)
  enc := h.enc
  ok := (valid_ptr hj).trans h.ok
  typed := h.typed
  stab := stable_ptr.mpr ⟨hn, h.stab⟩
  kept := kept_ptr hj

/-- A slice is represented element by element (`ps` lists the pairs, `a` and `b` read the two sides off a pair). -/
theorem Rep.slice {σ} (ps : List σ) (a : σ → JVal) (b : σ → GoVal) (h : ∀ p ∈ ps, Rep t (a p) (b p)) :
    Rep (.slice t) (.arr (ps.map a)) (.slice (ps.map b)) where
  dec := congrArg (·.map GoVal.slice) (mapM_map_eq_some (decode t) a b ps fun p hp => (h p hp).dec)
  enc := congrArg (·.map JVal.arr) (mapM_map_eq_some (encode t) b a ps fun p hp => (h p hp).enc)
  ok := all_map (valid t) a ps fun p hp => (h p hp).ok
  typed := all_map (hasTy t) b ps fun p hp => (h p hp).typed
  stab := all_map (stable t) b ps fun p hp => (h p hp).stab
  kept := by show (!(List.map _ ps).isEmpty) = !(List.map _ ps).isEmpty; rw [List.isEmpty_map, List.isEmpty_map]

/-- … and so is a map, entry by entry under the same keys `k`. -/
theorem Rep.map {σ} (ps : List σ) (k : σ → String) (a : σ → JVal) (b : σ → GoVal) (h : ∀ p ∈ ps, Rep t (a p) (b p))
    (hk : sortedKeys (ps.map fun p => (k p, a p)) = true) :
    Rep (.map t) (.obj (ps.map fun p => (k p, a p))) (.map (ps.map fun p => (k p, b p))) where
  dec := congrArg (·.map GoVal.map) (mapM_map_eq_some _ _ _ ps fun p hp => congrArg (·.map fun v => (k p, v)) (h p hp).dec)
  enc := congrArg (·.map JVal.obj) (mapM_map_eq_some _ _ _ ps fun p hp => congrArg (·.map fun j => (k p, j)) (h p hp).enc)
  ok := Bool.and_eq_true_iff.mpr ⟨hk, all_map (fun kv : String × JVal => valid t kv.2) _ ps fun p hp => (h p hp).ok⟩
  typed := Bool.and_eq_true_iff.mpr ⟨(sortedKeys_map k a b ps).symm.trans hk,
    all_map (fun kv : String × GoVal => hasTy t kv.2) _ ps fun p hp => (h p hp).typed⟩
  stab := all_map (fun kv : String × GoVal => stable t kv.2) _ ps fun p hp => (h p hp).stab
  kept := by show (!(List.map _ ps).isEmpty) = !(List.map _ ps).isEmpty; rw [List.isEmpty_map, List.isEmpty_map]

theorem Rep.struct (h : RepFields fs m vs) : Rep (.struct fs) (.obj m) (.struct vs) :=
  ⟨congrArg (·.map GoVal.struct) h.dec, congrArg (·.map JVal.obj) h.enc, h.ok, h.typed, h.stab, rfl⟩

theorem RepFields.nil : RepFields .nil [] [] := ⟨rfl, rfl, rfl, rfl, rfl⟩

/-- A field that is written: the member stands first in the object. -/
theorem RepFields.keep (hnot : (names rest).contains n = false) (h : Rep t j v)
    (hk : (!om || !isEmpty v) = true) (hr : RepFields rest m vs) :
    RepFields (.cons n om t rest) ((n, j) :: m) (v :: vs) where
  dec := by simp only [decodeFields, lookup_cons, if_true, h.dec, decodeFields_skip rest n j m hnot, hr.dec]
  enc := by
    have : (om && isEmpty v) = false := by rw [← Bool.not_eq_true', Bool.not_and, hk]
    simp only [encodeFields, this, h.enc, hr.enc, Bool.false_eq_true, if_false]
  ok := by simp only [validFields, if_true, h.ok, h.kept, hk, hr.ok, Bool.and_self]
  typed := Bool.and_eq_true_iff.mpr ⟨h.typed, hr.typed⟩
  stab := by
    -- an empty non-nil slice or map is empty, and `hk` says an empty value is not under `omitempty`
    refine stableFields_cons.mpr ⟨⟨?_, h.stab⟩, hr.stab⟩
    cases om
    · rfl
    · cases hl : lossyEmpty v
      · rfl
      · rw [lossy_is_empty v hl] at hk; cases hk

/-- A field that is left out: it holds the zero value and the object has no member of its name. -/
theorem RepFields.omit (hw : wf t = true) (hom : om = true) (hz : isEmpty (zero t) = true) (hany : m.any (·.1 = n) = false)
    (hr : RepFields rest m vs) : RepFields (.cons n om t rest) m (zero t :: vs) where
  dec := by
    have : lookup m n = none := Assoc.get_eq_none.mpr fun kv hkv hk => List.any_eq_false.mp hany kv hkv (decide_eq_true hk)
    simp only [decodeFields, this, hr.dec, Option.map_some]
  enc := (if_pos (Bool.and_eq_true_iff.mpr ⟨hom, hz⟩)).trans hr.enc
  ok := by
    cases m with
    | nil => exact Bool.and_eq_true_iff.mpr ⟨Bool.and_eq_true_iff.mpr ⟨hom, hz⟩, hr.ok⟩
    | cons kj m' =>
      have hk : kj.1 ≠ n := of_decide_eq_false (Bool.or_eq_false_iff.mp hany).1
      exact (if_neg hk).trans (by rw [hom, hz, hany, hr.ok]; rfl)
  typed := Bool.and_eq_true_iff.mpr ⟨hasTy_zero t hw, hr.typed⟩
  stab := stableFields_cons.mpr ⟨⟨(lossyEmpty_zero t).symm ▸ Bool.and_false om, stable_zero t⟩, hr.stab⟩

end rules

mutual
/-- Every valid canonical JSON value of a well-formed type represents a Go value. -/
theorem rep_of_valid : ∀ (t : GoTy) (j : JVal), wf t = true → valid t j = true → ∃ v, Rep t j v
  -- matching on `t` alone is cheaper to check; `hv` is absurd wherever `valid` is `false` by definition
  | .bool => fun j _ hv => by
    cases j
    case bool => exact ⟨_, .bool _⟩
    all_goals exact (Bool.false_ne_true hv).elim
  | .int lo hi => fun j _ hv => by
    cases j
    case num => exact ⟨_, .int (of_decide_eq_true hv)⟩
    all_goals exact (Bool.false_ne_true hv).elim
  | .string => fun j _ hv => by
    cases j
    case str => exact ⟨_, .str _⟩
    all_goals exact (Bool.false_ne_true hv).elim
  | .ptr t => fun j hw hv => by
    by_cases hj : j = .null
    · subst hj; exact ⟨_, .ptrNil t⟩
    · obtain ⟨w, h⟩ := rep_of_valid t j hw (valid_ptr hj ▸ hv)
      refine ⟨_, h.ptr hj ?_⟩
      -- `w` is not nil: nil is written `null`, and `j`, which is what `w` is written as, is not `null`
      cases w <;> first | rfl | exact absurd (encode_nilv h.enc) hj
  | .slice t => fun j hw hv => by
    cases j
    case null => exact ⟨_, .sliceNil t⟩
    case arr l =>
      obtain ⟨ps, rfl, h⟩ := exists_pairs l fun x hx =>
        rep_of_valid t x (Bool.and_eq_true_iff.mp hw).2 (List.all_eq_true.mp hv x hx)
      exact ⟨_, .slice ps _ _ h⟩
    all_goals exact (Bool.false_ne_true hv).elim
  | .map t => fun j hw hv => by
    cases j
    case null => exact ⟨_, .mapNil t⟩
    case obj m =>
      obtain ⟨hk, hv⟩ := Bool.and_eq_true_iff.mp hv
      obtain ⟨ps, rfl, h⟩ := exists_pairs m fun x hx => rep_of_valid t x.2 hw (List.all_eq_true.mp hv x hx)
      exact ⟨_, .map ps (·.1.1) (·.1.2) (·.2) h hk⟩
    all_goals exact (Bool.false_ne_true hv).elim
  | .struct fs => fun j hw hv => by
    cases j
    case obj m => exact (repFields_of_valid fs m hw hv).elim fun _ h => ⟨_, .struct h⟩
    all_goals exact (Bool.false_ne_true hv).elim

theorem repFields_of_valid : ∀ (fs : Fields) (m : List (String × JVal)), wfFields fs = true → validFields fs m = true →
    ∃ vs, RepFields fs m vs
  | .nil => fun m _ hv => List.isEmpty_iff.mp hv ▸ ⟨_, .nil⟩
  | .cons n om t rest => fun m hw hv => by
    obtain ⟨⟨hnot, hwt⟩, hwr⟩ := wfFields_cons.mp hw
    cases m with
    | nil =>
      simp only [validFields, Bool.and_eq_true] at hv
      obtain ⟨vs, hr⟩ := repFields_of_valid rest [] hwr hv.2
      exact ⟨_, .omit hwt hv.1.1 hv.1.2 rfl hr⟩
    | cons kj m' =>
      obtain ⟨k, j⟩ := kj
      by_cases hk : k = n
      · subst hk
        simp only [validFields, if_true, Bool.and_eq_true] at hv
        obtain ⟨v, h⟩ := rep_of_valid t j hwt hv.1.1
        obtain ⟨vs, hr⟩ := repFields_of_valid rest m' hwr hv.2
        exact ⟨_, .keep hnot h (h.kept ▸ hv.1.2) hr⟩
      · simp only [validFields, hk, if_false, Bool.and_eq_true, Bool.not_eq_true'] at hv
        obtain ⟨vs, hr⟩ := repFields_of_valid rest ((k, j) :: m') hwr hv.2
        exact ⟨_, .omit hwt hv.1.1.1 hv.1.1.2 hv.1.2 hr⟩
end

mutual
/-- Every stable value of a well-formed type is represented by a JSON value. -/
theorem rep_of_stable : ∀ (t : GoTy) (v : GoVal), wf t = true → hasTy t v = true → stable t v = true → ∃ j, Rep t j v
  | .bool => fun v _ ht _ => by
    cases v
    case bool => exact ⟨_, .bool _⟩
    all_goals exact (Bool.false_ne_true ht).elim
  | .int lo hi => fun v _ ht _ => by
    cases v
    case int => exact ⟨_, .int (of_decide_eq_true ht)⟩
    all_goals exact (Bool.false_ne_true ht).elim
  | .string => fun v _ ht _ => by
    cases v
    case str => exact ⟨_, .str _⟩
    all_goals exact (Bool.false_ne_true ht).elim
  | .ptr t => fun v hw ht hs => by
    cases v
    case nilv => exact ⟨_, .ptrNil t⟩
    case ptr w =>
      obtain ⟨hn, hs⟩ := stable_ptr.mp hs
      obtain ⟨j, h⟩ := rep_of_stable t w hw ht hs
      exact ⟨j, h.ptr (enc_ne_null t w j h.enc hn hs) hn⟩
    all_goals exact (Bool.false_ne_true ht).elim
  | .slice t => fun v hw ht hs => by
    cases v
    case nilv => exact ⟨_, .sliceNil t⟩
    case slice l =>
      obtain ⟨ps, rfl, h⟩ := exists_pairs l fun x hx =>
        rep_of_stable t x (Bool.and_eq_true_iff.mp hw).2 (List.all_eq_true.mp ht x hx) (List.all_eq_true.mp hs x hx)
      exact ⟨_, .slice ps (·.2) (·.1) h⟩
    all_goals exact (Bool.false_ne_true ht).elim
  | .map t => fun v hw ht hs => by
    cases v
    case nilv => exact ⟨_, .mapNil t⟩
    case map m =>
      obtain ⟨hk, ht⟩ := Bool.and_eq_true_iff.mp ht
      obtain ⟨ps, rfl, h⟩ := exists_pairs m fun x hx =>
        rep_of_stable t x.2 hw (List.all_eq_true.mp ht x hx) (List.all_eq_true.mp hs x hx)
      exact ⟨_, .map ps (·.1.1) (·.2) (·.1.2) h ((sortedKeys_map _ _ _ ps).trans hk)⟩
    all_goals exact (Bool.false_ne_true ht).elim
  | .struct fs => fun v hw ht hs => by
    cases v
    case struct vs => exact (repFields_of_stable fs vs hw ht hs).elim fun _ h => ⟨_, .struct h⟩
    all_goals exact (Bool.false_ne_true ht).elim

theorem repFields_of_stable : ∀ (fs : Fields) (vs : List GoVal), wfFields fs = true → hasTyFields fs vs = true →
    stableFields fs vs = true → ∃ m, RepFields fs m vs
  | .nil, [] => fun _ _ _ => ⟨_, .nil⟩
  | .nil, _ :: _ | .cons .., [] => fun _ ht _ => Bool.noConfusion ht
  | .cons n om t rest, v :: vs => fun hw ht hs => by
    obtain ⟨⟨hnot, hwt⟩, hwr⟩ := wfFields_cons.mp hw
    obtain ⟨htv, htr⟩ := Bool.and_eq_true_iff.mp ht
    obtain ⟨⟨hl, hsv⟩, hsr⟩ := stableFields_cons.mp hs
    obtain ⟨m, hr⟩ := repFields_of_stable rest vs hwr htr hsr
    by_cases hom : (om && isEmpty v) = true
    · -- left out: it was the zero value, and no member written for the rest carries its name
      simp only [Bool.and_eq_true] at hom
      have hz := empty_is_zero t v htv hom.2 (Bool.and_eq_false_imp.mp hl hom.1)
      subst hz
      refine ⟨m, .omit hwt hom.1 hom.2 (List.any_eq_false.mpr fun kv hkv hk => Bool.false_ne_true ?_) hr⟩
      have := encodeFields_names rest vs m hr.enc kv hkv
      exact hnot.symm.trans (List.contains_iff_mem.mpr (of_decide_eq_true hk ▸ this))
    · obtain ⟨j, h⟩ := rep_of_stable t v hwt htv hsv
      exact ⟨(n, j) :: m, .keep hnot h (by rw [← Bool.not_and, Bool.not_eq_true']; exact Bool.eq_false_iff.mpr hom) hr⟩
end

theorem rep_of_decode {t : GoTy} {j : JVal} {v : GoVal} (hw : wf t = true) (hv : valid t j = true)
    (hd : decode t j = some v) : Rep t j v := by
  obtain ⟨v', h⟩ := rep_of_valid t j hw hv
  cases hd.symm.trans h.dec
  exact h

theorem rep_of_encode {t : GoTy} {j : JVal} {v : GoVal} (hw : wf t = true) (ht : hasTy t v = true)
    (hs : stable t v = true) (he : encode t v = some j) : Rep t j v := by
  obtain ⟨j', h⟩ := rep_of_stable t v hw ht hs
  cases he.symm.trans h.enc
  exact h

/-- `json.Marshal(json.Unmarshal(j)) = j` for every valid canonical value of a well-formed type. -/
theorem roundtrip : ∀ (t : GoTy) (j : JVal), wf t = true → valid t j = true →
    ∃ v, decode t j = some v ∧ encode t v = some j :=
  fun t j hw hv => (rep_of_valid t j hw hv).imp fun _ h => ⟨h.dec, h.enc⟩

theorem roundtripFields : ∀ (fs : Fields) (m : List (String × JVal)), wfFields fs = true → validFields fs m = true →
    ∃ vs, decodeFields fs m = some vs ∧ encodeFields fs vs = some m :=
  fun fs m hw hv => (repFields_of_valid fs m hw hv).imp fun _ h => ⟨h.dec, h.enc⟩

/-- What decodes from a valid canonical JSON value is a stable value of the type. -/
theorem decode_typed_stable : ∀ (t : GoTy) (j : JVal) (v : GoVal), wf t = true → valid t j = true → decode t j = some v →
    hasTy t v = true ∧ stable t v = true :=
  fun _ _ _ hw hv hd => have h := rep_of_decode hw hv hd; ⟨h.typed, h.stab⟩

theorem decodeFields_typed_stable : ∀ (fs : Fields) (m : List (String × JVal)) (vs : List GoVal), wfFields fs = true →
    validFields fs m = true → decodeFields fs m = some vs → hasTyFields fs vs = true ∧ stableFields fs vs = true := by
  intro fs m vs hw hv hd
  obtain ⟨vs', h⟩ := repFields_of_valid fs m hw hv
  cases hd.symm.trans h.dec
  exact ⟨h.typed, h.stab⟩

/-- `json.Unmarshal(json.Marshal(v)) = v` for every stable value of a well-formed type. -/
theorem enc_dec : ∀ (t : GoTy) (v : GoVal), wf t = true → hasTy t v = true → stable t v = true →
    ∃ j, encode t v = some j ∧ decode t j = some v :=
  fun t v hw ht hs => (rep_of_stable t v hw ht hs).imp fun _ h => ⟨h.enc, h.dec⟩

theorem enc_dec_fields : ∀ (fs : Fields) (vs : List GoVal), wfFields fs = true → hasTyFields fs vs = true →
    stableFields fs vs = true → ∃ js, encodeFields fs vs = some js ∧ decodeFields fs js = some vs :=
  fun fs vs hw ht hs => (repFields_of_stable fs vs hw ht hs).imp fun _ h => ⟨h.enc, h.dec⟩

/-- `json.Marshal` of a stable value of a well-formed type is a valid canonical instance of the type. -/
theorem encode_valid : ∀ (t : GoTy) (v : GoVal) (j : JVal), wf t = true → hasTy t v = true → stable t v = true →
    encode t v = some j → valid t j = true :=
  fun _ _ _ hw ht hs he => (rep_of_encode hw ht hs he).ok

theorem encodeFields_valid : ∀ (fs : Fields) (vs : List GoVal) (js : List (String × JVal)), wfFields fs = true →
    hasTyFields fs vs = true → stableFields fs vs = true → encodeFields fs vs = some js → validFields fs js = true := by
  intro fs vs js hw ht hs he
  obtain ⟨js', h⟩ := repFields_of_stable fs vs hw ht hs
  cases he.symm.trans h.enc
  exact h.ok

end OapiVerif.GoJson
