import OapiVerif.Model.JsonObj
import OapiVerif.Proofs.Assoc
/-!
The object-level templates (additional properties, unions with properties of their own) read as maps: `insert` is
`Assoc.alter`, what `MarshalJSON` writes for the declared members is a lookup in the instance (`lookup_declaredOut`), and on a
valid instance it is the instance restricted to the declared names.
-/
namespace OapiVerif.JsonObj
variable {V : Type}

theorem insert_eq_alter (m : List (String × V)) (k : String) (v : V) : insert m k v = Assoc.alter (fun _ => v) m k :=
  Assoc.set_eq_alter m k v

theorem lookup_insert (m : List (String × V)) (k : String) (v : V) (k' : String) :
    lookup (insert m k v) k' = if k = k' then some v else lookup m k' := by
  rw [insert_eq_alter]; exact Assoc.get_alter _ m k k'

/-- assigning entries with distinct keys into a map, as `MarshalJSON` does with the additional properties -/
theorem lookup_foldl_insert (l m : List (String × V)) (hnd : (l.map (·.1)).Nodup) (k : String) :
    lookup (l.foldl (fun m kv => insert m kv.1 kv.2) m) k = (lookup l k).or (lookup m k) := by
  simp only [insert_eq_alter]
  exact Assoc.get_foldl_set_of_nodup hnd m k

theorem lookup_filter (o : List (String × V)) (p : String → Bool) (k : String) :
    lookup (o.filter fun kv => p kv.1) k = if p k then lookup o k else none := Assoc.get_filter_key p o k

theorem lookup_cons (e : String × V) (m : List (String × V)) (k : String) :
    lookup (e :: m) k = if e.1 = k then some e.2 else lookup m k := Assoc.get_cons e m k

theorem lookup_append (m l : List (String × V)) (k : String) : lookup (m ++ l) k = (lookup m k).or (lookup l k) :=
  Assoc.get_append m l k

/-- What `MarshalJSON` does with the additional properties `UnmarshalJSON` captured: the members of `o` without a declared
name are assigned over `base`. -/
theorem lookup_foldl_insert_undeclared (fs : List Field) (o base : List (String × V)) (ho : (o.map (·.1)).Nodup) (k : String) :
    lookup ((o.filter fun kv => !declaredName fs kv.1).foldl (fun m kv => insert m kv.1 kv.2) base) k =
      if declaredName fs k then lookup base k else (lookup o k).or (lookup base k) := by
  rw [lookup_foldl_insert _ _ ((List.filter_sublist.map _).nodup ho), lookup_filter o (fun k => !declaredName fs k) k]
  cases declaredName fs k <;> rfl

/-- one own member: written with its value, or with `zero` when it is nil and cannot be left out -/
theorem declaredOut_cons (zero : V) (f : Field) (fs : List Field) (ov : Option V) (ovs : List (Option V)) :
    declaredOut zero (f :: fs) (ov :: ovs) =
      ((ov.or (if f.optNil then none else some zero)).map fun v => (f.name, v)).toList ++ declaredOut zero fs ovs := by
  obtain ⟨nm, opt⟩ := f; cases ov <;> cases opt <;> rfl

theorem lookup_toList (n : String) (ov : Option V) (k : String) :
    lookup ((ov.map fun v => (n, v)).toList) k = if n = k then ov else none := by
  cases ov with
  | none => exact (ite_self none).symm
  | some v => exact lookup_cons (n, v) [] k

/-- what `MarshalJSON` writes for the declared members, read as a map -/
theorem lookup_declaredOut (zero : V) (fs : List Field) (o : List (String × V)) (hnd : (fs.map (·.name)).Nodup) (k : String) :
    lookup (declaredOut zero fs (fs.map fun f => lookup o f.name)) k =
      (fs.find? (·.name = k)).bind fun f => (lookup o k).or (if f.optNil then none else some zero) := by
  induction fs with
  | nil => rfl
  | cons f rest ih =>
    rw [List.map_cons, List.nodup_cons] at hnd
    rw [List.map_cons, declaredOut_cons, lookup_append, lookup_toList, ih hnd.2, List.find?_cons]
    by_cases hf : f.name = k
    · -- no later field has the name
      subst hf
      rw [List.find?_eq_none.mpr fun g hg hk => hnd.1 (List.mem_map.mpr ⟨g, hg, by simpa using hk⟩), if_pos rfl,
        decide_eq_true rfl]
      exact Option.or_none
    · rw [if_neg hf, decide_eq_false hf]; rfl

/-- An instance is valid for the struct when every member that is not optional-and-nilable is present. -/
def Valid (fs : List Field) (o : List (String × V)) : Prop :=
  ∀ f ∈ fs, f.optNil = false → (lookup o f.name).isSome

/-- On a valid instance the declared part of what `MarshalJSON` writes is the instance restricted to the declared names. -/
theorem lookup_declaredOut_valid (zero : V) (fs : List Field) (o : List (String × V)) (hf : (fs.map (·.name)).Nodup)
    (hv : Valid fs o) (k : String) :
    lookup (declaredOut zero fs (fs.map fun f => lookup o f.name)) k = if declaredName fs k then lookup o k else none := by
  rw [lookup_declaredOut zero fs o hf k]
  cases hfind : fs.find? (·.name = k) with
  | none => rw [show declaredName fs k = false from List.any_eq_false.mpr (List.find?_eq_none.mp hfind)]; rfl
  | some f =>
    obtain ⟨hfm, hfk⟩ := find?_key_some (f := Field.name) hfind
    rw [show declaredName fs k = true from List.any_eq_true.mpr ⟨f, hfm, decide_eq_true hfk⟩]
    cases ho : lookup o k with
    | some v => rfl
    | none =>
      cases hn : f.optNil with
      | true => exact if_pos hn
      | false => have := hv f hfm hn; rw [hfk, ho] at this; cases this

/-- `MarshalJSON` writes the own properties in declaration order, skipping some. -/
theorem declaredOut_keys_sublist (zero : V) (fs : List Field) (ovs : List (Option V)) :
    ((declaredOut zero fs ovs).map (·.1)).Sublist (fs.map (·.name)) := by
  fun_induction declaredOut zero fs ovs
  case case1 ih => exact ih.cons_cons _   -- a set field is written
  case case2 ih => exact ih.cons _        -- a nil optional field is skipped
  case case3 ih => exact ih.cons_cons _   -- any other nil field is written as `zero`
  case case4 => exact List.nil_sublist _

end OapiVerif.JsonObj
