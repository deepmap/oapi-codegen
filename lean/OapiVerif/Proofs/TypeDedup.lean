import OapiVerif.Proofs.Order
import OapiVerif.Proofs.Lists
import OapiVerif.Proofs.IntParse
/-! `GenerateTypes` by one invariant of its loop (`go_ok`: what is returned is the reversed accumulator followed by the first
definition of every name not yet seen, `firsts`) and what a refusal means (`go_err`); `constructImportMapping` through the
ascending list of distinct paths, which depends on the set of paths only (`asc_unique` of Proofs/Order.lean). -/
namespace OapiVerif.TypeDedup

theorem find_some {seen : List TD} {n : Str} {p : TD} (h : find seen n = some p) : p ∈ seen ∧ p.name = n :=
  find?_key_some h

theorem find_none {seen : List TD} {n : Str} (h : find seen n = none) : ∀ q ∈ seen, q.name ≠ n :=
  fun q hq => by simpa using List.find?_eq_none.mp h q hq

theorem td_ext (a b : TD) (h1 : a.name = b.name) (h2 : a.body = b.body) : a = b := by
  cases a; cases b; simp_all

theorem firsts_sublist (l : List TD) (seen : List Str) : (firsts l seen).Sublist l := by
  fun_induction firsts l seen with
  | case1 => exact .slnil
  | case2 t rest seen _ ih => exact .cons _ ih        -- a name seen before is skipped
  | case3 t rest seen _ ih => exact .cons_cons _ ih   -- a new name is kept

theorem go_ok (rest acc out : List TD) (h : go rest acc = .ok out) (hnd : (acc.map (·.name)).Nodup) :
    (out.map (·.name)).Nodup ∧ (∀ t, t ∈ out ↔ t ∈ acc ∨ t ∈ rest) ∧ out = acc.reverse ++ firsts rest (acc.map (·.name)) := by
  -- the cases of `go`: nothing left; the name was seen with the same body; seen with another body; not seen
  fun_induction go rest acc with
  | case1 acc =>
    cases h
    exact ⟨by rw [List.map_reverse]; exact (List.reverse_perm _).nodup_iff.mpr hnd, by simp, (List.append_nil _).symm⟩
  | case2 t rest acc p hp heq ih =>
    obtain ⟨hpm, hpn⟩ := find_some hp
    have hc : (acc.map (·.name)).contains t.name = true :=
      List.contains_iff_mem.mpr (List.mem_map.mpr ⟨p, hpm, hpn⟩)
    obtain ⟨h1, h2, ho⟩ := ih h hnd
    refine ⟨h1, fun x => ?_, ho.trans (congrArg _ (if_pos hc).symm)⟩
    rw [h2 x, List.mem_cons]
    exact ⟨Or.imp_right .inr, fun h => h.elim .inl fun h => h.elim (fun e => .inl (e ▸ td_ext p t hpn heq ▸ hpm)) .inr⟩
  | case3 t rest acc p hp hne => cases h
  | case4 t rest acc hn ih =>
    have hni : t.name ∉ acc.map (·.name) := fun hm => by
      obtain ⟨q, hq, hqn⟩ := List.mem_map.mp hm
      exact find_none hn q hq hqn
    obtain ⟨h1, h2, ho⟩ := ih h (List.nodup_cons.mpr ⟨hni, hnd⟩)
    refine ⟨h1, fun x => ?_, ?_⟩
    · rw [h2 x, List.mem_cons, List.mem_cons, or_comm (a := x = t), or_assoc]
    · rw [ho, List.reverse_cons, List.append_assoc]
      exact congrArg (acc.reverse ++ ·) (if_neg fun h => hni (List.contains_iff_mem.mp h)).symm

theorem generateTypes_ok {ts out : List TD} (h : generateTypes ts = .ok out) :
    (out.map (·.name)).Nodup ∧ (∀ t, t ∈ out ↔ t ∈ ts) ∧ out = firsts ts [] := by
  simpa using go_ok ts [] out h List.nodup_nil

theorem go_err (rest acc : List TD) (e : Str) (h : go rest acc = .error e) :
    ∃ a b, (a ∈ acc ∨ a ∈ rest) ∧ b ∈ rest ∧ a.name = e ∧ b.name = e ∧ a.body ≠ b.body := by
  fun_induction go rest acc with
  | case1 acc => cases h
  | case2 t rest acc p hp heq ih =>
    obtain ⟨a, b, ha, hb, r⟩ := ih h
    exact ⟨a, b, ha.imp_right (List.mem_cons_of_mem _), List.mem_cons_of_mem _ hb, r⟩
  | case3 t rest acc p hp hne =>
    cases h
    exact ⟨p, t, .inl (find_some hp).1, List.mem_cons_self, (find_some hp).2, rfl, hne⟩
  | case4 t rest acc hn ih =>
    obtain ⟨a, b, ha, hb, r⟩ := ih h
    rw [List.mem_cons, or_comm (a := a = t), or_assoc, ← List.mem_cons] at ha
    exact ⟨a, b, ha, List.mem_cons_of_mem _ hb, r⟩

theorem asc_sortedDistinct (ps : List Str) : Asc (sortedDistinct ps) :=
  List.foldrRecOn ps _ (.nil : Asc []) fun l hl p _ => asc_insertU p l hl

theorem mem_sortedDistinct (ps : List Str) (x : Str) : x ∈ sortedDistinct ps ↔ x ∈ ps := by
  unfold sortedDistinct
  induction ps with
  | nil => simp
  | cons p t ih => simp only [List.foldr_cons, mem_insertU, ih, List.mem_cons]

theorem rank_eq (l : List Str) (p : Str) : rank l p = l.idxOf? p := by
  induction l <;> simp_all [rank, List.idxOf?_cons]

theorem rank_get (l : List Str) (p : Str) (i : Nat) (h : rank l p = some i) : l[i]? = some p := by
  obtain ⟨hi, he, _⟩ := List.idxOf?_eq_some_iff.mp (rank_eq l p ▸ h)
  rw [List.getElem?_eq_getElem hi, he]

theorem rank_mem (l : List Str) (p : Str) (h : p ∈ l) : ∃ i, rank l p = some i :=
  rank_eq l p ▸ Option.isSome_iff_exists.mp (List.isSome_idxOf?.mpr h)

theorem pkgName_inj (m : List (Str × Str)) (p q n : Str) (hp : pkgName m p = some n) (hq : pkgName m q = some n) : p = q := by
  unfold pkgName at hp hq
  obtain ⟨i, hi, rfl⟩ := Option.map_eq_some_iff.mp hp
  obtain ⟨j, hj, e⟩ := Option.map_eq_some_iff.mp hq
  cases Enums.itoa_inj j i (List.append_cancel_left e)
  exact Option.some.inj ((rank_get _ _ _ hi).symm.trans (rank_get _ _ _ hj))

theorem pkgName_some (m : List (Str × Str)) (d p : Str) (h : (d, p) ∈ m) : ∃ n, pkgName m p = some n := by
  unfold pkgName
  have : p ∈ sortedDistinct (m.map (·.2)) := (mem_sortedDistinct _ _).mpr (List.mem_map.mpr ⟨(d, p), h, rfl⟩)
  obtain ⟨i, hi⟩ := rank_mem _ _ this
  exact ⟨_, by rw [hi]; rfl⟩

theorem pkgName_congr (m₁ m₂ : List (Str × Str)) (h : ∀ x, x ∈ m₁.map (·.2) ↔ x ∈ m₂.map (·.2)) (p : Str) :
    pkgName m₁ p = pkgName m₂ p := by
  unfold pkgName
  have : sortedDistinct (m₁.map (·.2)) = sortedDistinct (m₂.map (·.2)) :=
    asc_unique _ _ (asc_sortedDistinct _) (asc_sortedDistinct _) (fun x => by rw [mem_sortedDistinct, mem_sortedDistinct]; exact h x)
  rw [this]

theorem mem_construct {m : List (Str × Str)} {d n p : Str} :
    (d, n, p) ∈ construct m ↔ (d, p) ∈ m ∧ pkgName m p = some n := by
  unfold construct
  rw [List.mem_filterMap]
  constructor
  · rintro ⟨⟨d', p'⟩, hm, hx⟩
    obtain ⟨k, hk, e⟩ := Option.map_eq_some_iff.mp hx
    cases e
    exact ⟨hm, hk⟩
  · rintro ⟨hm, hk⟩
    exact ⟨(d, p), hm, by simp [hk]⟩

end OapiVerif.TypeDedup
