import OapiVerif.Model.RespDefs
namespace OapiVerif.RespDefs

/-- position by position: a definition keeps the code of its response, and its ref is that response's or none -/
def Matches : List RIn → List ROut → Prop
  | [], [] => True
  | i :: is, o :: os => (o.code = i.code ∧ (o.ref = none ∨ o.ref = i.ref)) ∧ Matches is os
  | _, _ => False

/-- What the loop keeps true of its output `os`, for any `refSet` it starts from: the codes stay, in order; position by
position a definition has its response's ref or none; the refs handed out are pairwise different and none was in `refSet`;
a component outside `refSet` that some response refers to is handed out. -/
def Inv (rs : List RIn) (seen : List Str) (os : List ROut) : Prop :=
  os.map (·.code) = rs.map (·.code) ∧ Matches rs os ∧
  ((os.filterMap (·.ref)).Nodup ∧ ∀ t ∈ os.filterMap (·.ref), t ∉ seen) ∧
  ∀ r ∈ rs, ∀ t, r.ref = some t → t ∉ seen → ∃ o ∈ os, o.ref = some t

/-- A response without a ref, or with one that is taken already: the definition gets a type of its own. -/
theorem Inv.skip {r : RIn} {rest : List RIn} {seen : List Str} {os : List ROut} (hr : ∀ u, r.ref = some u → u ∈ seen)
    (h : Inv rest seen os) : Inv (r :: rest) seen (⟨r.code, none⟩ :: os) := by
  obtain ⟨hcd, hm, hn, hx⟩ := h
  exact ⟨congrArg _ hcd, ⟨⟨rfl, .inl rfl⟩, hm⟩, hn, List.forall_mem_cons.mpr
    ⟨fun u hu hs => absurd (hr u hu) hs, fun r' hr' u hu hs => (hx r' hr' u hu hs).imp fun _ h => ⟨.tail _ h.1, h.2⟩⟩⟩

/-- A ref `t` not taken yet: this definition takes it, and from here on `t` is in `refSet`. -/
theorem Inv.take {r : RIn} {rest : List RIn} {seen : List Str} {os : List ROut} {t : Str} (ht : r.ref = some t)
    (hc : t ∉ seen) (h : Inv rest (t :: seen) os) : Inv (r :: rest) seen (⟨r.code, some t⟩ :: os) := by
  obtain ⟨hcd, hm, ⟨hn, hs'⟩, hx⟩ := h
  refine ⟨congrArg _ hcd, ⟨⟨rfl, .inr ht.symm⟩, hm⟩,
    ⟨List.nodup_cons.mpr ⟨fun h => hs' t h List.mem_cons_self, hn⟩,
      List.forall_mem_cons.mpr ⟨hc, fun u hu h => hs' u hu (.tail _ h)⟩⟩,
    List.forall_mem_cons.mpr ⟨fun u hu _ => ⟨_, List.mem_cons_self, hu ▸ ht ▸ rfl⟩, fun r' hr' u hu hs => ?_⟩⟩
  by_cases e : u = t
  · exact ⟨_, List.mem_cons_self, e ▸ rfl⟩
  · exact (hx r' hr' u hu fun h => (List.mem_cons.mp h).elim e hs).imp fun _ h => ⟨.tail _ h.1, h.2⟩

theorem go_spec (rs : List RIn) (seen : List Str) : Inv rs seen (go rs seen) := by
  -- the cases of `go`: no response left; a ref that is taken; a ref that is not; no ref
  fun_induction go rs seen with
  | case1 seen => exact ⟨rfl, trivial, ⟨.nil, List.forall_mem_nil _⟩, List.forall_mem_nil _⟩
  | case2 r rest seen t ht hc ih => exact .skip (fun u hu => List.contains_iff_mem.mp (Option.some.inj (ht ▸ hu) ▸ hc)) ih
  | case3 r rest seen t ht hc ih => exact .take ht (mt List.contains_iff_mem.mpr hc) ih
  | case4 r rest seen hr ih => exact .skip (fun u hu => nomatch hr ▸ hu) ih

end OapiVerif.RespDefs
