import OapiVerif.Model.Codec
import OapiVerif.Proofs.Escape
/-!
The escaping layer of the codec: `Dec`/`DecLoc`, "this wire text un-escapes to that text in front of anything", composed
over prefix, separators and parts, so that every style's wire form decodes to the serialisation with nothing escaped
(`styleParam_dec`); `bindStyled` then has only the splitting of Proofs/CodecSplit.lean left to do.
-/
namespace OapiVerif.Codec
open OapiVerif.Escape

def plainStr (loc : Loc) (s : Str) : Prop :=
  match loc with
  | .path => ∀ b ∈ s, plain .path b = true
  | .query | .undefined => ∀ b ∈ s, plain .query b = true
  | _ => True

instance (loc : Loc) (s : Str) : Decidable (plainStr loc s) := by
  unfold plainStr; cases loc <;> infer_instance

theorem plainStr_iff (loc : Loc) (s : Str) : plainStr loc s ↔ ∀ b ∈ s, plainStr loc [b] := by
  cases loc with
  | path | query | undefined => exact forall₂_congr fun _ _ => (List.forall_mem_singleton (p := (plain _ · = true))).symm
  | header | cookie => exact ⟨fun _ _ _ => trivial, fun _ => trivial⟩

theorem plainStr_nil (loc : Loc) : plainStr loc [] := (plainStr_iff loc []).mpr fun _ h => nomatch h

theorem plainStr_append {loc : Loc} {s t : Str} (hs : plainStr loc s) (ht : plainStr loc t) :
    plainStr loc (s ++ t) := by
  rw [plainStr_iff] at *
  intro b hb
  rcases List.mem_append.mp hb with h | h
  · exact hs b h
  · exact ht b h

theorem plainStr_delim (loc : Loc) :
    plainStr loc [cComma] ∧ plainStr loc [cDot] ∧ plainStr loc [cSemi] ∧ plainStr loc [cEq] ∧ plainStr loc [cAmp] := by
  cases loc <;> decide

/-- `w` decodes to `r` in front of anything. -/
def Dec (m : Mode) (w r : Str) : Prop :=
  ∀ rest, unescape m (w ++ rest) = (unescape m rest).map (r ++ ·)

theorem Dec.escape (m : Mode) (x : Str) (hb : ∀ b ∈ x, b < 256) : Dec m (escape m x) x :=
  fun rest => unescape_escape_append m x hb rest

theorem Dec.plain (m : Mode) (p : Str) (hp : ∀ b ∈ p, plain m b = true) : Dec m p p := fun rest => by
  have := unescape_flatMap m (fun b => [b]) p (fun b hb rest => unescape_cons_plain m b rest (hp b hb)) rest
  rwa [List.flatMap_singleton'] at this

theorem Dec.unesc {m : Mode} {w r : Str} (h : Dec m w r) : unescape m w = some r :=
  unescape_of_append h

theorem Dec.append {m : Mode} {w1 r1 w2 r2 : Str} (h1 : Dec m w1 r1) (h2 : Dec m w2 r2) :
    Dec m (w1 ++ w2) (r1 ++ r2) := by
  intro rest
  rw [List.append_assoc, h1, h2]
  cases unescape m rest <;> simp only [Option.map, List.append_assoc]

/-- Decoding relation by parameter location (client and server use the same location). Nothing is related at `.undefined`:
there `escLoc` escapes nothing while `unescLoc` query-unescapes, so no round trip holds — hence the `loc ≠ .undefined` of
the round-trip theorems. -/
def DecLoc (loc : Loc) (w r : Str) : Prop :=
  match loc with
  | .path => Dec .path w r
  | .query => Dec .query w r
  | .header | .cookie => w = r
  | .undefined => False

theorem DecLoc.unesc {loc : Loc} {w r : Str} (h : DecLoc loc w r) : unescLoc loc w = .ok r := by
  cases loc with
  | path | query => rw [unescLoc, Dec.unesc h]
  | header | cookie => exact congrArg Except.ok h
  | undefined => exact h.elim

theorem DecLoc.esc (loc : Loc) (hloc : loc ≠ .undefined) (x : Str) (hb : ∀ b ∈ x, b < 256) :
    DecLoc loc (escLoc loc x) x := by
  cases loc with
  | path | query => exact Dec.escape _ x hb
  | header | cookie => exact rfl
  | undefined => exact absurd rfl hloc

theorem DecLoc.plain (loc : Loc) (hloc : loc ≠ .undefined) (p : Str) (hp : plainStr loc p) :
    DecLoc loc p p := by
  cases loc with
  | path | query => exact Dec.plain _ p hp
  | header | cookie => exact rfl
  | undefined => exact absurd rfl hloc

theorem DecLoc.append {loc : Loc} {w1 r1 w2 r2 : Str} (h1 : DecLoc loc w1 r1) (h2 : DecLoc loc w2 r2) :
    DecLoc loc (w1 ++ w2) (r1 ++ r2) := by
  cases loc with
  | path | query => exact Dec.append h1 h2
  | header | cookie => obtain rfl : w1 = r1 := h1; obtain rfl : w2 = r2 := h2; exact rfl
  | undefined => exact h1.elim

theorem DecLoc.join {loc : Loc} (hloc : loc ≠ .undefined) {sep : Str} (hsep : DecLoc loc sep sep) {α : Type}
    (f g : α → Str) : ∀ (xs : List α), (∀ x ∈ xs, DecLoc loc (f x) (g x)) →
      DecLoc loc (Codec.join sep (xs.map f)) (Codec.join sep (xs.map g)) := by
  intro xs
  induction xs with
  | nil => intro _; exact DecLoc.plain loc hloc [] (plainStr_nil loc)
  | cons x t ih =>
    intro h
    have ⟨h1, ht⟩ := List.forall_mem_cons.mp h
    cases t with
    | nil => exact h1
    | cons y t' => exact (h1.append hsep).append (ih ht)

theorem primPrefix_plain (st : Style) (name : Str) (loc : Loc) (h : plainStr loc name) :
    plainStr loc (primPrefix st name) := by
  obtain ⟨-, hDot, hSemi, hEq, -⟩ := plainStr_delim loc
  cases st with
  | simple => exact plainStr_nil loc
  | label => exact hDot
  | matrix => exact plainStr_append (s := [cSemi]) hSemi (plainStr_append h hEq)
  | form => exact plainStr_append h hEq

theorem prefixSep_plain (st : Style) (e : Bool) (name : Str) (loc : Loc) (hp : plainStr loc (primPrefix st name)) :
    (plainStr loc (objPrefixSep st e name).1 ∧ plainStr loc (objPrefixSep st e name).2) ∧
      plainStr loc (arrPrefixSep st e name).1 ∧ plainStr loc (arrPrefixSep st e name).2 := by
  obtain ⟨hComma, hDot, hSemi, -, hAmp⟩ := plainStr_delim loc
  cases e with
  | false => cases st <;> exact ⟨⟨hp, hComma⟩, hp, hComma⟩
  | true => cases st with
    | simple => exact ⟨⟨hp, hComma⟩, hp, hComma⟩
    | label => exact ⟨⟨hp, hDot⟩, hp, hDot⟩
    | matrix => exact ⟨⟨hSemi, hSemi⟩, hp, hp⟩
    | form => exact ⟨⟨plainStr_nil loc, hAmp⟩, hp, plainStr_append hAmp hp⟩

/-- What the escaping step needs of a value: bytes, and member names that go on the wire as they are. -/
def Val.Sendable (loc : Loc) : Val → Prop
  | .prim s => ∀ b ∈ s, b < 256
  | .arr xs => ∀ x ∈ xs, ∀ b ∈ x, b < 256
  | .obj kvs => ∀ kv ∈ kvs, plainStr loc kv.1 ∧ ∀ b ∈ kv.2, b < 256

theorem objParts_dec (explode : Bool) (loc : Loc) (hloc : loc ≠ .undefined) {sep : Str}
    (hs : DecLoc loc sep sep) (kvs : List (Str × Str))
    (h : ∀ kv ∈ kvs, plainStr loc kv.1 ∧ ∀ b ∈ kv.2, b < 256) :
    DecLoc loc (join sep (objParts explode loc kvs)) (join sep (objParts explode .header kvs)) := by
  cases explode with
  | true =>
    obtain ⟨-, -, -, hEq, -⟩ := plainStr_delim loc
    exact DecLoc.join hloc hs _ _ kvs fun kv hkv =>
      ((DecLoc.plain loc hloc _ (h kv hkv).1).append (DecLoc.plain loc hloc [cEq] hEq)).append
        (DecLoc.esc loc hloc _ (h kv hkv).2)
  | false =>
    have := DecLoc.join hloc hs (α := Str × Str) Prod.fst Prod.snd
      (kvs.flatMap fun kv => [(kv.1, kv.1), (escLoc loc kv.2, kv.2)]) (by
      intro p hp
      simp only [List.mem_flatMap, List.mem_cons, List.not_mem_nil, or_false] at hp
      obtain ⟨kv, hkv, rfl | rfl⟩ := hp
      · exact DecLoc.plain loc hloc _ (h kv hkv).1
      · exact DecLoc.esc loc hloc _ (h kv hkv).2)
    rwa [List.map_flatMap, List.map_flatMap] at this

/-- The escaping layer of every style at once: un-escaping the whole wire string gives the serialisation of the same
value with nothing escaped (which is `styleParam` at a header). What the style then has to undo is splitting only. -/
theorem styleParam_dec (st : Style) (e : Bool) (name : Str) (loc : Loc) (hloc : loc ≠ .undefined) (v : Val)
    (hp : plainStr loc (primPrefix st name)) (hv : v.Sendable loc) :
    DecLoc loc (styleParam st e name loc v) (styleParam st e name .header v) := by
  cases v with
  | prim s => exact (DecLoc.plain loc hloc _ hp).append (DecLoc.esc loc hloc s hv)
  | arr xs =>
    obtain ⟨h1, h2⟩ := (prefixSep_plain st e name loc hp).2
    exact (DecLoc.plain loc hloc _ h1).append
      (DecLoc.join hloc (DecLoc.plain loc hloc _ h2) _ _ xs fun x hx => DecLoc.esc loc hloc x (hv x hx))
  | obj kvs =>
    obtain ⟨h1, h2⟩ := (prefixSep_plain st e name loc hp).1
    exact (DecLoc.plain loc hloc _ h1).append (objParts_dec e loc hloc (DecLoc.plain loc hloc _ h2) kvs hv)

/-- The guard of `BindStyledParameterWithOptions` does not fire on a wire string that is there. -/
theorem required_nonempty {required : Bool} {wire : Str} (hreq : required = true → wire ≠ []) :
    (required && wire.isEmpty) = false := by
  cases required with
  | false => rfl
  | true => simpa using hreq rfl

/-! `bindStyled` once the wire string is known to un-escape to `v`: what is left is the splitting of `v`. -/

theorem bindStyled_prim_of {st : Style} {explode required : Bool} {name : Str} {loc : Loc} {wire v : Str}
    (hreq : required = true → wire ≠ []) (hu : unescLoc loc wire = .ok v) :
    bindStyled st explode required name loc .prim wire = .ok (.prim v) := by
  simp [bindStyled, required_nonempty hreq, hu]

theorem bindStyled_arr_of {st : Style} {explode required : Bool} {name : Str} {loc : Loc} {wire v : Str} {parts : List Str}
    (hreq : required = true → wire ≠ [])
    (hu : unescLoc loc wire = .ok v) (hs : splitStyled st explode false name v = .ok parts) :
    bindStyled st explode required name loc .arr wire = .ok (.arr parts) := by
  simp [bindStyled, required_nonempty hreq, hu, hs]

theorem bindStyled_obj_of {st : Style} {explode required : Bool} {name : Str} {loc : Loc} {wire v : Str} {parts : List Str}
    {kvs : List (Str × Str)} (hreq : required = true → wire ≠ [])
    (hu : unescLoc loc wire = .ok v) (hs : splitStyled st explode true name v = .ok parts)
    (hp : partsToPairs explode parts = .ok kvs) :
    bindStyled st explode required name loc .obj wire = .ok (.obj kvs) := by
  simp [bindStyled, required_nonempty hreq, hu, hs, hp]

/-- A primitive arrives as the un-escaped serialisation, prefix and all: the pinned runtime strips nothing for a
primitive destination, whatever the style. -/
theorem prim_roundtrip (st : Style) (explode required : Bool) (name : Str) (loc : Loc) (hloc : loc ≠ .undefined)
    (hp : plainStr loc (primPrefix st name)) (s : Str) (hb : ∀ b ∈ s, b < 256)
    (hreq : required = true → styleParam st explode name loc (.prim s) ≠ []) :
    bindStyled st explode required name loc .prim (styleParam st explode name loc (.prim s))
      = .ok (.prim (primPrefix st name ++ s)) :=
  bindStyled_prim_of hreq (styleParam_dec st explode name loc hloc (.prim s) hp hb).unesc

end OapiVerif.Codec
