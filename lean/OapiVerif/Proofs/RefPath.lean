import OapiVerif.Model.RefPath
/-! `refPathToGoType` on a reference into another document. -/
namespace OapiVerif.RefPath

theorem fragmentType_no_consult (env env' : Env) (frag : Str) (isLocal : Bool)
    (htn : env.typeName = env'.typeName) : fragmentType env frag isLocal false = fragmentType env' frag isLocal false := by
  simp only [fragmentType, Bool.false_and, Bool.false_eq_true, if_false, htn]

/-- A reference into another document depends on the environment through the import mapping and the type of the fragment
only. -/
theorem remote_congr (env env' : Env) (c : Nat) (t : Str) (b : Bool) (hc : c ≠ hash) (himp : env.imports = env'.imports)
    (hfrag : ∀ frag, fragmentType env frag false b = fragmentType env' frag false b) :
    refPathToGoTypeWith env (c :: t) b = refPathToGoTypeWith env' (c :: t) b := by
  simp only [refPathToGoTypeWith, hc, if_false, himp, hfrag]

/-- … and when it is rendered, it is the type of the fragment behind the package mapped to that document. -/
theorem remote_ok (env : Env) (c : Nat) (t out : Str) (b : Bool) (hc : c ≠ hash)
    (h : refPathToGoTypeWith env (c :: t) b = .ok out) :
    ∃ remote flat pkg u, (c :: t).splitOn hash = [remote, flat] ∧ lookupImport env.imports remote = some pkg ∧
      fragmentType env (hash :: flat) false b = .ok u ∧ out = pkg ++ [dot] ++ u := by
  simp only [refPathToGoTypeWith, hc, if_false] at h
  split at h
  · next remote flat hs =>
    cases hl : lookupImport env.imports remote with
    | none => simp [hl] at h
    | some pkg =>
      cases hf : fragmentType env (hash :: flat) false b with
      | error e => simp [hl, hf] at h
      | ok u =>
        simp only [hl, hf, Except.ok.injEq] at h
        exact ⟨remote, flat, pkg, u, hs, hl, hf, h.symm⟩
  · cases h

/-- A document that the import mapping does not name is an error, never an unqualified type. -/
theorem unmapped_is_error (env : Env) (remote flat : Str) (c : Nat) (t : Str) (hr : remote ++ hash :: flat = c :: t) (hc : c ≠ hash)
    (hsplit : (remote ++ hash :: flat).splitOn hash = [remote, flat]) (hl : lookupImport env.imports remote = none) :
    refPathToGoType env (remote ++ hash :: flat) = .error .unmapped := by
  rw [hr] at hsplit ⊢
  simp only [refPathToGoType, refPathToGoTypeWith, hc, if_false, hsplit, hl]

end OapiVerif.RefPath
