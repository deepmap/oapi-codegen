import OapiVerif.Model.Responses
import OapiVerif.Model.Walks
import OapiVerif.Model.TypeDedup
/-!
The one byte-wise order on strings (`Responses.lexLt`, the order of `sort.Strings`) and what is kept sorted by it: it is a
strict total order, `lexLe`/`Walks.kle` is "less or equal" (a total order, which is what `mergeSort_perm_eq` of Proofs/Lists
asks of a comparison whose sorting is to be independent of the arrangement of the input), and insertion into an ascending list without repeats (`TypeDedup.insertU`) keeps it ascending. The keyed insertions of the
other models reach the last fact through `asc_of_keys`.
-/
namespace OapiVerif.Responses

/-- `lexLt` is core's order on lists of numbers; irreflexivity, asymmetry and transitivity are core's. -/
theorem lexLt_iff_lt (a b : Str) : lexLt a b = true ↔ a < b := by
  -- the cases of `lexLt`: both empty; the left one empty; the right one empty; two heads
  fun_induction lexLt a b with
  | case1 | case2 | case3 => simp
  | case4 x xs y ys ih =>
    simp only [Bool.or_eq_true, decide_eq_true_eq, Bool.and_eq_true, beq_iff_eq, List.cons_lt_cons_iff, ih]

theorem lexLt_irrefl (a : Str) : lexLt a a = false :=
  Bool.eq_false_iff.mpr fun h => List.lt_irrefl a ((lexLt_iff_lt a a).mp h)

theorem lexLt_asymm (a b : Str) (h : lexLt a b = true) : lexLt b a = false :=
  Bool.eq_false_iff.mpr fun h' => List.lt_asymm ((lexLt_iff_lt a b).mp h) ((lexLt_iff_lt b a).mp h')

theorem lexLt_trans (a b c : Str) (h1 : lexLt a b = true) (h2 : lexLt b c = true) : lexLt a c = true :=
  (lexLt_iff_lt a c).mpr (List.lt_trans ((lexLt_iff_lt a b).mp h1) ((lexLt_iff_lt b c).mp h2))

/-- `lexLe` is core's `≤` on lists (there too `a ≤ b` is `¬ b < a`): totality, antisymmetry and transitivity are core's. -/
theorem lexLe_iff_le (a b : Str) : lexLe a b = true ↔ a ≤ b := by
  rw [lexLe, Bool.not_eq_true', ← Bool.not_eq_true, lexLt_iff_lt, List.not_lt]

theorem lexLt_total (a b : Str) (h : a ≠ b) : lexLt a b = true ∨ lexLt b a = true := by
  rw [lexLt_iff_lt, lexLt_iff_lt]
  exact Decidable.or_iff_not_imp_left.mpr fun hab => Decidable.of_not_not fun hba =>
    h (List.le_antisymm (List.not_lt.mp hba) (List.not_lt.mp hab))

theorem lexLt_append_left (p a b : Str) : lexLt (p ++ a) (p ++ b) = lexLt a b := by
  induction p with
  | nil => rfl
  | cons x t ih => simp [lexLt, ih]

theorem lexLe_iff (a b : Str) : lexLe a b = true ↔ lexLt a b = true ∨ a = b := by
  rw [lexLe_iff_le, lexLt_iff_lt, List.le_iff_lt_or_eq]

theorem lexLe_of_ne {a b : Str} (h : a ≠ b) : lexLe a b = lexLt a b :=
  Bool.eq_iff_iff.mpr ((lexLe_iff a b).trans ⟨fun h' => h'.resolve_right h, .inl⟩)

end OapiVerif.Responses

namespace OapiVerif.Walks
open OapiVerif.Responses

theorem kle_total (a b : Key) : (kle a b || kle b a) = true :=
  Bool.or_eq_true _ _ ▸ (List.le_total a b).imp (lexLe_iff_le a b).mpr (lexLe_iff_le b a).mpr

theorem kle_antisymm (a b : Key) (h1 : kle a b = true) (h2 : kle b a = true) : a = b :=
  List.le_antisymm ((lexLe_iff_le a b).mp h1) ((lexLe_iff_le b a).mp h2)

theorem kle_trans (a b c : Key) (h1 : kle a b = true) (h2 : kle b c = true) : kle a c = true :=
  (lexLe_iff_le a c).mpr (List.le_trans ((lexLe_iff_le a b).mp h1) ((lexLe_iff_le b c).mp h2))

end OapiVerif.Walks

namespace OapiVerif.TypeDedup
open Responses

def Asc (l : List Str) : Prop := l.Pairwise fun a b => lexLt a b = true

-- the cases of `insertU p l`: `l` empty; `p` the head; `p` less than the head `q`; otherwise (the recursive one)
theorem mem_insertU (p : Str) (l : List Str) (x : Str) : x ∈ insertU p l ↔ x = p ∨ x ∈ l := by
  fun_induction insertU p l with
  | case1 => simp
  | case2 rest => simp
  | case3 q rest hne hlt => simp
  | case4 q rest hne hnlt ih => simp only [List.mem_cons, ih]; exact or_left_comm

theorem asc_insertU (p : Str) (l : List Str) (h : Asc l) : Asc (insertU p l) := by
  fun_induction insertU p l with
  | case1 => exact List.pairwise_singleton _ _
  | case2 rest => exact h
  | case3 q rest hne hlt =>
    obtain ⟨hq, _⟩ := List.pairwise_cons.mp h
    exact List.pairwise_cons.mpr
      ⟨fun x hx => (List.mem_cons.mp hx).elim (· ▸ hlt) fun hx => lexLt_trans p q x hlt (hq x hx), h⟩
  | case4 q rest hne hnlt ih =>
    obtain ⟨hq, hr⟩ := List.pairwise_cons.mp h
    refine List.pairwise_cons.mpr ⟨fun x hx => ?_, ih hr⟩
    exact ((mem_insertU p rest x).mp hx).elim (· ▸ (lexLt_total p q hne).resolve_left hnlt) (hq x)

/-- The same for entries ordered by a key, once the keys of the new list are known to be `insertU` of the old keys. -/
theorem asc_of_keys {α : Type} {key : α → Str} {k : Str} {l l' : List α} (hk : l'.map key = insertU k (l.map key))
    (h : l.Pairwise fun a b => lexLt (key a) (key b) = true) : l'.Pairwise fun a b => lexLt (key a) (key b) = true :=
  List.pairwise_map.mp (hk ▸ asc_insertU k _ (List.pairwise_map.mpr h))

theorem asc_nodup (l : List Str) (h : Asc l) : l.Nodup :=
  h.imp fun hab e => by rw [e, lexLt_irrefl] at hab; cases hab

/-- Two ascending lists with the same members are equal: the list depends only on which names occur, not on their order or
multiplicity. -/
theorem asc_unique (l₁ l₂ : List Str) (h1 : Asc l₁) (h2 : Asc l₂) (h : ∀ x, x ∈ l₁ ↔ x ∈ l₂) : l₁ = l₂ :=
  List.Perm.eq_of_pairwise (le := fun a b => lexLt a b = true)
    (fun a b _ _ hab hba => by rw [lexLt_asymm _ _ hab] at hba; cases hba) h1 h2
    ((List.perm_ext_iff_of_nodup (asc_nodup l₁ h1) (asc_nodup l₂ h2)).mpr h)

end OapiVerif.TypeDedup
