import OapiVerif.Model.Escape
namespace OapiVerif.Escape

theorem unhex_hexDigit : ∀ n, n < 16 → unhex (hexDigit n) = some n := by decide

theorem unescape_cons_ne (m : Mode) (c : Nat) (rest : List Nat) (h : c ≠ 37) :
    unescape m (c :: rest) =
      (unescape m rest).map (fun r => (if m = .query && c = 43 then 32 else c) :: r) := by
  generalize hl : c :: rest = l
  -- the equations of `unescape`: the empty text, the four that begin with `%`, and the plain byte (decoded rest or not)
  fun_cases unescape m l
  case case1 => cases hl
  case case2 | case3 | case4 | case5 => cases hl; exact absurd rfl h
  case case6 hr | case7 hr => cases hl; rw [hr]; rfl

theorem unescape_pct (m : Mode) (h l : Nat) (rest : List Nat) :
    unescape m (37 :: h :: l :: rest) =
      match unhex h, unhex l, unescape m rest with
      | some a, some b, some r => some ((a * 16 + b) :: r)
      | _, _, _ => none := by
  rw [unescape.eq_def]; rfl

/-- A byte that is neither `%` nor (in query mode) `+` passes through `unescape` unchanged. -/
def plain (m : Mode) (b : Nat) : Bool := b != 37 && !(m == .query && b == 43)

theorem unescape_cons_plain (m : Mode) (c : Nat) (rest : List Nat) (h : plain m c = true) :
    unescape m (c :: rest) = (unescape m rest).map (c :: ·) := by
  obtain ⟨h37, hq⟩ := Bool.and_eq_true_iff.mp h
  rw [unescape_cons_ne m c rest (bne_iff_ne.mp h37),
    show (decide (m = .query) && decide (c = 43)) = false from (Bool.not_eq_true' _).mp hq]
  rfl

theorem unescape_flatMap (m : Mode) (f : Nat → List Nat) (s : List Nat)
    (hf : ∀ b ∈ s, ∀ rest, unescape m (f b ++ rest) = (unescape m rest).map (b :: ·)) (rest : List Nat) :
    unescape m (s.flatMap f ++ rest) = (unescape m rest).map (s ++ ·) := by
  induction s with
  | nil => exact Option.map_id'.symm
  | cons b t ih =>
    rw [List.flatMap_cons, List.append_assoc, hf b List.mem_cons_self, ih fun x hx => hf x (List.mem_cons_of_mem _ hx)]
    cases unescape m rest <;> rfl

/-- A byte that is sent as it is comes back as it is: `%` is always escaped, and so is `+` in query mode. -/
theorem plain_of_noEscape (m : Mode) (b : Nat) (h : shouldEscape m b = false) : plain m b = true := by
  have h37 : b ≠ 37 := by intro e; subst e; revert h; cases m <;> decide
  cases m with
  | path => exact Bool.and_eq_true_iff.mpr ⟨bne_iff_ne.mpr h37, rfl⟩
  | query =>
    have h43 : b ≠ 43 := by intro e; subst e; revert h; decide
    exact Bool.and_eq_true_iff.mpr ⟨bne_iff_ne.mpr h37, bne_iff_ne.mpr h43⟩

theorem unescape_escByte (m : Mode) (b : Nat) (hb : b < 256) (rest : List Nat) :
    unescape m (escByte m b ++ rest) = (unescape m rest).map (b :: ·) := by
  fun_cases escByte m b
  case case1 hsp =>
    -- a space in query mode travels as `+`
    simp only [Bool.and_eq_true, decide_eq_true_eq] at hsp
    obtain ⟨rfl, rfl⟩ := hsp
    rw [List.singleton_append, unescape_cons_ne _ _ _ (by decide)]
    rfl
  case case2 =>
    rw [List.cons_append, List.cons_append, List.cons_append, List.nil_append, unescape_pct,
      unhex_hexDigit _ (Nat.div_lt_of_lt_mul hb), unhex_hexDigit _ (Nat.mod_lt _ (by decide))]
    cases unescape m rest with
    | none => rfl
    | some r => exact congrArg (fun x => some (x :: r)) (Nat.div_add_mod' b 16)
  case case3 _ hne => exact unescape_cons_plain m b rest (plain_of_noEscape m b (by simpa using hne))

theorem unescape_escape_append (m : Mode) (s : List Nat) (hs : ∀ b ∈ s, b < 256) (rest : List Nat) :
    unescape m (escape m s ++ rest) = (unescape m rest).map (s ++ ·) :=
  unescape_flatMap m (escByte m) s (fun b hb => unescape_escByte m b (hs b hb)) rest

theorem unescape_of_append {m : Mode} {w r : List Nat}
    (h : ∀ rest, unescape m (w ++ rest) = (unescape m rest).map (r ++ ·)) : unescape m w = some r := by
  have := h []
  rwa [List.append_nil, show unescape m [] = some [] from rfl, Option.map_some, List.append_nil] at this

/-- `unescape (escape s) = s`: a value survives escaping by the client and unescaping by the
server, whatever bytes it contains. -/
theorem unescape_escape (m : Mode) (s : List Nat) (hs : ∀ b ∈ s, b < 256) :
    unescape m (escape m s) = some s :=
  unescape_of_append (unescape_escape_append m s hs)

theorem hexDigit_unreserved (m : Mode) : ∀ n, n < 16 → shouldEscape m (hexDigit n) = false := by
  cases m <;> decide

/-- Every byte of an escaped string is `%`, `+` or a byte that needs no escaping (the hex digits are such bytes): in
particular none of the style delimiters `,` `;` `/` `?` in path mode, and no reserved byte at all in query mode. -/
theorem escape_unreserved (m : Mode) (s : List Nat) (hs : ∀ b ∈ s, b < 256) :
    ∀ c ∈ escape m s, c = 37 ∨ c = 43 ∨ shouldEscape m c = false := by
  intro c hc
  simp only [escape, List.mem_flatMap] at hc
  obtain ⟨b, hb, hcb⟩ := hc
  have hb256 := hs b hb
  revert hcb
  fun_cases escByte m b
  case case1 => exact fun hcb => .inr (.inl (List.mem_singleton.mp hcb))
  case case2 =>
    intro hcb
    simp only [List.mem_cons, List.not_mem_nil, or_false] at hcb
    rcases hcb with rfl | rfl | rfl
    · exact .inl rfl
    · exact .inr (.inr (hexDigit_unreserved m _ (Nat.div_lt_of_lt_mul hb256)))
    · exact .inr (.inr (hexDigit_unreserved m _ (Nat.mod_lt _ (by decide))))
  case case3 _ hne => exact fun hcb => List.mem_singleton.mp hcb ▸ .inr (.inr (by simpa using hne))

/-- A weaker form of `escape_unreserved`: the range `'0'`–`'F'` it gives for the hex digits also admits `:` `;` `<` `=` `>` `?`
`@`, so it cannot show that a delimiter is absent from an escaped string; `escape_unreserved` can. -/
theorem escape_bytes (m : Mode) (s : List Nat) (hs : ∀ b ∈ s, b < 256) :
    ∀ c ∈ escape m s, c = 37 ∨ c = 43 ∨ shouldEscape m c = false ∨ (48 ≤ c ∧ c ≤ 70) :=
  fun c hc => (escape_unreserved m s hs c hc).imp_right (·.imp_right .inl)

end OapiVerif.Escape
