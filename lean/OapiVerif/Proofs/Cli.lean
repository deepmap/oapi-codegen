import OapiVerif.Model.Cli
import OapiVerif.Proofs.Lists
/-! What a target list switches on (`targetFlags`), when a configuration validates, and the row a documented key should have. -/
namespace OapiVerif.Cli

theorem targetFlags_some {ts : List String} {fs : List Flag} (h : targetFlags ts = some fs) :
    ∀ f, fs.contains f = ts.any (fun t => docTarget t == some f) := by
  revert fs
  -- the cases of `targetFlags`: no target; a documented target in front of a list that resolves; anything else
  fun_induction targetFlags ts
  case case1 => rintro _ ⟨⟩ f; rfl
  case case2 t ts f0 fs0 hts ht ih =>
    rintro _ ⟨⟩ f
    rw [List.contains_cons, List.any_cons, ih hts f, ht, Option.some_beq_some, BEq.comm]
  case case3 => exact fun h => nomatch h

theorem targetFlags_none_iff (ts : List String) :
    targetFlags ts = none ↔ ∃ t ∈ ts, docTarget t = none := by
  induction ts with
  | nil => simp [targetFlags]
  | cons t ts ih =>
    simp only [targetFlags, List.mem_cons, exists_eq_or_imp, ← ih]
    cases docTarget t <;> cases targetFlags ts <;> simp

theorem validate_iff (pkgEmpty : Bool) (e : Eff) :
    validate pkgEmpty e = true ↔ pkgEmpty = false ∧ nServers e ≤ 1 := by
  simp [validate]

theorem isServer_eq_contains (f : Flag) : f.isServer = serverFlags.contains f := by cases f <;> rfl

theorem mem_serverFlags {f : Flag} (hf : f.isServer = true) : f ∈ serverFlags :=
  List.contains_iff_mem.mp ((isServer_eq_contains f).symm.trans hf)

theorem count_serverFlags (f : Flag) (hf : f.isServer = true) : serverFlags.count f = 1 :=
  (List.Nodup.count (by decide)).trans (if_pos (mem_serverFlags hf))

theorem two_le_nServers (e : Eff) (f g : Flag) (hf : f.isServer = true) (hg : g.isServer = true) (hne : f ≠ g)
    (ef : e f = true) (eg : e g = true) : 2 ≤ nServers e := by
  have := count_add_count_le_sum e f g hne ef eg serverFlags
  rwa [count_serverFlags f hf, count_serverFlags g hg] at this

theorem updateDefaults_server (e : Eff) (f : Flag) (h : e f = true) (hs : f.isServer = true) : updateDefaults e f = true := by
  -- a server flag is a generate option, so the selection is not empty and the defaults leave it alone
  have hm : f ∈ genFlags := (by decide : ∀ f ∈ serverFlags, f ∈ genFlags) f (mem_serverFlags hs)
  have hz : ¬ genIsZero e = true := fun hz => by
    have := List.all_eq_true.mp hz f hm
    rw [h] at this; cases this
  rw [updateDefaults, if_neg hz]; exact h

/-- The row the table should hold for a documented key: a key of the schema and of the struct, accepted, changing
itself only, read back as written. -/
def keyRowOf (k : String) : KeyRow := ⟨k, true, true, true, [k], true⟩

theorem keyRowOf_ok (ks : List String) :
    (ks.map keyRowOf).all keyRowOk = true ∧ ks.all (fun k => (ks.map keyRowOf).any (fun r => r.key == k)) = true := by
  constructor
  · refine List.all_eq_true.mpr fun r hr => ?_
    obtain ⟨k, -, rfl⟩ := List.mem_map.mp hr
    simp [keyRowOk, keyRowOf]
  · exact List.all_eq_true.mpr fun k hk =>
      List.any_eq_true.mpr ⟨_, List.mem_map.mpr ⟨k, hk, rfl⟩, decide_eq_true rfl⟩

end OapiVerif.Cli
