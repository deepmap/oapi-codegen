import OapiVerif.Model.FieldTags
import OapiVerif.Proofs.Order
import OapiVerif.Proofs.Assoc
namespace OapiVerif.FieldTags
open Responses

theorem lookup_cons (e : Str × Str) (t : List (Str × Str)) (k : Str) :
    lookup (e :: t) k = if e.1 = k then some e.2 else lookup t k := Assoc.get_cons e t k

/-- `fieldTags[k] = v` read back (`lookup` is `Assoc.get`). -/
theorem lookup_insertKV (k v : Str) (t : List (Str × Str)) (k' : Str) :
    lookup (insertKV k v t) k' = if k = k' then some v else lookup t k' := by
  -- the cases of `insertKV`: empty map; `k` is the first key (replaced); `k` sorts before it (put in front); further down
  fun_induction insertKV k v t with
  | case1 => rw [lookup_cons]
  | case2 q rest h =>
    subst h; rw [lookup_cons, lookup_cons]
    exact ite_congr rfl (fun _ => rfl) fun h => (if_neg h).symm
  | case3 q rest h hlt => rw [lookup_cons]
  | case4 q rest h hlt ih =>
    rw [lookup_cons, ih, lookup_cons]
    by_cases h2 : k = k'
    · rw [if_pos h2, if_pos h2, if_neg fun e => h (h2.trans e.symm)]
    · rw [if_neg h2, if_neg h2]

theorem lookup_ite_insertKV (c : Prop) [Decidable c] {k k' : Str} (h : k' ≠ k) (v : Str) (t : List (Str × Str)) :
    lookup (if c then insertKV k' v t else t) k = lookup t k := by
  split
  · rw [lookup_insertKV, if_neg h]
  · rfl

def Asc (t : List (Str × Str)) : Prop := t.Pairwise fun a b => lexLt a.1 b.1 = true

theorem keys_insertKV (k v : Str) (t : List (Str × Str)) :
    (insertKV k v t).map (·.1) = TypeDedup.insertU k (t.map (·.1)) := by
  -- `insertU` takes the same four branches on the keys
  fun_induction insertKV k v t with
  | case1 => rfl
  | case2 q rest h => exact (congrArg (· :: rest.map (·.1)) h).trans (if_pos h).symm
  | case3 q rest h hlt => exact ((if_neg h).trans (if_pos hlt)).symm
  | case4 q rest h hlt ih => exact (congrArg (q.1 :: ·) ih).trans ((if_neg h).trans (if_neg hlt)).symm

theorem asc_insertKV (k v : Str) (t : List (Str × Str)) (h : Asc t) : Asc (insertKV k v t) :=
  TypeDedup.asc_of_keys (keys_insertKV k v t) h

theorem asc_baseTags (o : Opts) (p : P) : Asc (baseTags o p) := by
  -- a `json` tag, then two conditional assignments: each keeps the order
  have step (c : Prop) [Decidable c] (k v : Str) (t : List (Str × Str)) (ht : Asc t) :
      Asc (if c then insertKV k v t else t) := by
    split
    · exact asc_insertKV k v t ht
    · exact ht
  exact step _ _ _ _ (step _ _ _ _ (asc_insertKV _ _ _ .nil))

/-- The tag map is the base tags overlaid, key by key, with the extra tags (a later one over an earlier one). -/
theorem lookup_fieldTags (o : Opts) (p : P) (k : Str) :
    lookup (fieldTags o p) k = (lookup p.extra.reverse k).or (lookup (baseTags o p) k) :=
  Assoc.get_foldl_of_law lookup (fun t k v => insertKV k v t) (fun t k v k' => lookup_insertKV k v t k') p.extra _ k

theorem lookup_fieldTags_of_not_extra (o : Opts) (p : P) (k : Str) (hk : k ∉ p.extra.map (·.1)) :
    lookup (fieldTags o p) k = lookup (baseTags o p) k := by
  rw [lookup_fieldTags, show lookup p.extra.reverse k = none from
    Assoc.get_of_not_mem_keys (by rwa [List.map_reverse, List.mem_reverse])]
  rfl

theorem lookup_fieldTags_of_extra (o : Opts) (p : P) (hnd : (p.extra.map (·.1)).Nodup) (k v : Str) (hv : (k, v) ∈ p.extra) :
    lookup (fieldTags o p) k = some v := by
  rw [lookup_fieldTags, show lookup p.extra.reverse k = some v from
    (Assoc.get_perm (List.reverse_perm p.extra).symm hnd k).symm.trans ((Assoc.get_eq_some_iff hnd).mpr hv)]
  rfl

end OapiVerif.FieldTags
