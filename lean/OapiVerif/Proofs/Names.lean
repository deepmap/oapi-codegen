import OapiVerif.Model.Names
/-! The two word tables of `SanitizeGoIdentity` hold words of lower-case ASCII letters and digits only, so a name with any other rune — the
underscore the sanitiser puts in front, a rune outside ASCII — is in neither. -/
namespace OapiVerif.Names

theorem word_runes : ∀ k ∈ goKeywords ++ predeclared, ∀ c ∈ k, 97 ≤ c ∧ c ≤ 122 ∨ 48 ≤ c ∧ c ≤ 57 := by
  decide +kernel

theorem not_word (k : Str) (c : Nat) (hc : c ∈ k) (h : ¬(97 ≤ c ∧ c ≤ 122 ∨ 48 ≤ c ∧ c ≤ 57)) :
    goKeywords.contains k = false ∧ predeclared.contains k = false := by
  simp only [List.contains_eq_mem, decide_eq_false_iff_not]
  exact ⟨fun hk => h (word_runes k (List.mem_append_left _ hk) c hc),
    fun hk => h (word_runes k (List.mem_append_right _ hk) c hc)⟩

/-- What `SanitizeGoIdentity` returns is in neither table: it is the mapped name if that is in neither, and the mapped name
behind an underscore otherwise. -/
theorem sanitize_not_word (U : Uni) (s : Str) :
    goKeywords.contains (sanitizeGoIdentity U s) = false ∧ predeclared.contains (sanitizeGoIdentity U s) = false := by
  fun_cases sanitizeGoIdentity U s
  · exact not_word _ 95 List.mem_cons_self (by decide)
  · next h => rwa [Bool.or_eq_true, not_or, Bool.not_eq_true, Bool.not_eq_true] at h

theorem sanitize_eq_self (U : Uni) (s : Str) (hv : ∀ x ∈ s.zipIdx, validRune U x.2 x.1 = true)
    (hk : goKeywords.contains s = false) (hp : predeclared.contains s = false) : sanitizeGoIdentity U s = s := by
  have hm : (s.zipIdx.map fun (c, i) => if validRune U i c then c else 95) = s :=
    (List.map_congr_left fun x hx => if_pos (hv x hx)).trans (List.zipIdx_map_fst 0 s)
  rw [sanitizeGoIdentity, hm, hk, hp]
  rfl

theorem validRune_class (U : Uni) (i c : Nat) (h : validRune U i c = true) :
    (U.isLetter c || c == 95 || U.isNumber c) = true := by
  unfold validRune at h
  split at h
  · cases h
  · exact h

end OapiVerif.Names
