import OapiVerif.Model.Chain
/-! A chain of middlewares run from the outside (`run` of the wrapped handler) is the list read in order (`seq`): through the
ones that pass, up to the first that does not. -/
namespace OapiVerif.Chain

theorem run_buildRev (mws : List Mw) (op : Nat) : run (buildRev mws (.base op)) = seq mws op := by
  induction mws with
  | nil => rfl
  | cons m ms ih => rw [buildRev, List.foldr_cons, run, ← buildRev, ih]; rfl

theorem run_foldl_wrap (mws : List Mw) (h : H) :
    run (mws.foldl (fun acc m => H.wrap m acc) h) =
      match mws.reverse with
      | [] => run h
      | _ => (mws.reverse.foldr (fun m acc => H.wrap m acc) h) |> run := by
  have : mws.foldl (fun acc m => H.wrap m acc) h = mws.reverse.foldr (fun m acc => H.wrap m acc) h := by
    rw [List.foldr_reverse]
  rw [this]
  cases mws.reverse <;> rfl

theorem run_buildFwd (mws : List Mw) (op : Nat) :
    run (buildFwd mws (.base op)) = seq mws.reverse op :=
  (congrArg run (List.foldr_reverse ..).symm).trans (run_buildRev mws.reverse op)

theorem seq_append (pre rest : List Mw) (op : Nat) (hpre : ∀ x ∈ pre, x.pass = true) :
    seq (pre ++ rest) op = pre.map (·.name) ++ seq rest op := by
  induction pre with
  | nil => rfl
  | cons p ps ih =>
    rw [List.cons_append, seq, if_pos (hpre p (List.mem_cons_self ..)), ih fun x hx => hpre x (List.mem_cons_of_mem _ hx)]
    rfl

theorem seq_allPass (mws : List Mw) (op : Nat) (h : ∀ m ∈ mws, m.pass = true) :
    seq mws op = mws.map (·.name) ++ [handlerTok op] := by
  rw [← List.append_nil mws, seq_append mws [] op h, List.append_nil]; rfl

theorem seq_stop (pre : List Mw) (m : Mw) (post : List Mw) (op : Nat)
    (hpre : ∀ x ∈ pre, x.pass = true) (hm : m.pass = false) :
    seq (pre ++ m :: post) op = pre.map (·.name) ++ [m.name] := by
  rw [seq_append pre _ op hpre, seq, hm]; rfl

/-- The link between the two oracles: the measured table is checked against `expected`, which is built from `seqThen`, the
theorems for all middleware lists speak of `seq`. For a row with `strict = false`, `expected r` is
`wrapperTrace (flavourOf r.fw) r.flag (mkMws r.n r.stop) r.op` by `wrapperTrace_eq_seq` and this equation. -/
theorem seq_eq_seqThen (mws : List Mw) (op : Nat) : seq mws op = seqThen mws [handlerTok op] := by
  fun_induction seq mws op with
  | case1 => rfl
  | case2 m ms op ih => rw [seqThen, ih]

theorem mem_perOpOrder {f : Flavour} {flag : Bool} {mws : List Mw} {m : Mw} (h : m ∈ perOpOrder f flag mws) : m ∈ mws := by
  cases f with
  | chi | gorilla | stdhttp => cases flag with | true => exact h | false => exact List.mem_reverse.mp h
  | gin | fiber | iris => exact h
  | echo => cases h

theorem wrapperTrace_eq_seq (f : Flavour) (flag : Bool) (mws : List Mw) (op : Nat) :
    wrapperTrace f flag mws op = seq (perOpOrder f flag mws) op := by
  cases f with
  | chi | gorilla | stdhttp =>
    cases flag with
    | false => exact run_buildFwd mws op
    | true => exact run_buildRev mws op
  | gin | fiber | iris | echo => rfl  -- echo registers no per-operation middleware: `perOpOrder` is empty

/-- When every middleware calls its successor, each runs once, in the order of `perOpOrder`, and then the handler:
reversed list order for chi / gorilla / std-http without the first-to-last flag, list order with it and always for
gin / fiber / iris. -/
theorem wrapperTrace_allPass (f : Flavour) (flag : Bool) (mws : List Mw) (op : Nat) (h : ∀ m ∈ mws, m.pass = true) :
    wrapperTrace f flag mws op = (perOpOrder f flag mws).map (·.name) ++ [handlerTok op] := by
  rw [wrapperTrace_eq_seq f flag mws op]
  exact seq_allPass _ _ fun m hm => h m (mem_perOpOrder hm)

end OapiVerif.Chain
