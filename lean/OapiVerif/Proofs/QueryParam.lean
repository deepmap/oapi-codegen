import OapiVerif.Proofs.QueryWire
/-!
C04, query parameters (style form), in two halves per shape: what `url.ParseQuery` reads from the fragment that
`StyleParamWithLocation("form", …, ParamLocationQuery)` writes (`parse_form_*`), and what `BindQueryParameter` makes of that
parsed query (`bindQuery_*`).
-/
namespace OapiVerif.Security
open OapiVerif.Codec OapiVerif.Escape

/-- A parameter or member name that needs no escaping and contains no query delimiter. -/
def NameOk (k : List Nat) : Prop := ∀ b ∈ k, plain .query b = true ∧ b ≠ 38 ∧ b ≠ 59 ∧ b ≠ 61

instance (k : List Nat) : Decidable (NameOk k) := by unfold NameOk; infer_instance

theorem QDec.plain {k : Str} (hk : NameOk k) : QDec k k :=
  ⟨fun c hc => (hk c hc).2, (Dec.plain .query k fun b hb => (hk b hb).1).unesc⟩

theorem parseQuery_single {kw vw k v : Str} (hk : QDec kw k) (hv : QDec vw v) :
    parseQuery (kw ++ [61] ++ vw) = .ok [(k, [v])] :=
  parseQuery_join [()] (fun _ => kw) (fun _ => vw) (fun _ => k) (fun _ => v) (fun _ _ => ⟨hk, hv⟩)

/-- An exploded array is written `name=a&name=b&…` and parsed as that many values under the name. -/
theorem parse_form_array_exploded (name : Str) (xs : List Str) (hn : NameOk name) (hne : xs ≠ [])
    (hb : ∀ x ∈ xs, Bytes x) :
    parseQuery (styleParam .form true name .query (.arr xs)) = .ok (qAddAll (xs.map fun x => (name, x)) []) := by
  have hfrag : styleParam .form true name .query (.arr xs) =
      join [cAmp] (xs.map fun x => name ++ [61] ++ escape .query x) :=
    (join_map_prefix (name ++ [cEq]) [cAmp] (xs.map (escape .query)) (join_map_ne_nil _ xs hne)).trans
      (congrArg (join [cAmp]) List.map_map)
  exact hfrag ▸ parseQuery_join xs (fun _ => name) (escape .query) (fun _ => name) id
    (fun x hx => ⟨QDec.plain hn, QDec.escape (hb x hx)⟩)

/-- An exploded object is written `k1=v1&k2=v2` and parsed as one value under each member name. -/
theorem parse_form_object_exploded (name : Str) (kvs : List (Str × Str)) (hk : ∀ kv ∈ kvs, NameOk kv.1)
    (hnd : (kvs.map (·.1)).Nodup) (hb : ∀ kv ∈ kvs, Bytes kv.2) :
    parseQuery (styleParam .form true name .query (.obj kvs)) = .ok (kvs.map fun kv => (kv.1, [kv.2])) := by
  have hp := parseQuery_join kvs (·.1) (escape .query ·.2) (·.1) (·.2)
    (fun kv h => ⟨QDec.plain (hk kv h), QDec.escape (hb kv h)⟩)
  rwa [List.map_id', qAddAll_distinct kvs [] hnd (fun _ h => nomatch h), List.nil_append] at hp

/-- What a query parameter value may hold: any bytes in the values; member names go on the wire as they are. -/
def QOk : Val → Prop
  | .prim s => Bytes s
  | .arr xs => ∀ x ∈ xs, Bytes x
  | .obj kvs => ∀ kv ∈ kvs, NameOk kv.1 ∧ Bytes kv.2

/-- The comma-separated (`simple`) serialisation is one well-formed query value: it holds no query delimiter and
un-escapes to the same serialisation with nothing escaped. -/
theorem QDec.simple (name : Str) (v : Val) (hv : QOk v) :
    QDec (styleParam .simple false name .query v) (styleParam .simple false name .header v) := by
  refine ⟨?_, Dec.unesc (styleParam_dec .simple false name .query (by decide) v (plainStr_nil _) ?_)⟩
  · intro c hc
    cases v with
    | prim s => exact escape_query_safe s hv c hc
    | arr xs =>
      rcases mem_join _ _ c hc with h | ⟨l, hl, hcl⟩
      · rw [List.mem_singleton.mp h]; decide
      · obtain ⟨x, hx, rfl⟩ := List.mem_map.mp hl
        exact escape_query_safe x (hv x hx) c hcl
    | obj kvs =>
      rcases mem_join _ _ c hc with h | ⟨l, hl, hcl⟩
      · rw [List.mem_singleton.mp h]; decide
      · simp only [objParts, Bool.false_eq_true, if_false, List.mem_flatMap, List.mem_cons, List.not_mem_nil,
          or_false] at hl
        obtain ⟨kv, hkv, rfl | rfl⟩ := hl
        · exact ((hv kv hkv).1 c hcl).2
        · exact escape_query_safe kv.2 (hv kv hkv).2 c hcl
  · cases v with
    | prim s => exact hv
    | arr xs => exact hv
    | obj kvs => exact fun kv h => ⟨fun b hb => ((hv kv h).1 b hb).1, (hv kv h).2⟩

/-- Unexploded `form` is `name=` in front of the `simple` serialisation, and arrives as one value under the name. -/
theorem parse_form_unexploded (name : Str) (v : Val) (hn : NameOk name) (hv : QOk v) :
    parseQuery (styleParam .form false name .query v) = .ok [(name, [styleParam .simple false name .header v])] := by
  have : styleParam .form false name .query v = name ++ [61] ++ styleParam .simple false name .query v := by
    cases v <;> rfl
  rw [this]
  exact parseQuery_single (QDec.plain hn) (QDec.simple name v hv)

theorem qLookup_single (k : Str) (vs : List Str) : qLookup [(k, vs)] k = some vs :=
  (Assoc.get_cons ..).trans (if_pos rfl)

/-- Unexploded, with one value under the name: the value is split on commas and read by shape. -/
theorem bindQuery_unexploded_single (required : Bool) (name : Str) (sh : Shape) (fields : List Str) (v : Str) :
    bindQuery false required name sh fields [(name, [v])] =
      match sh with
      | .arr => .ok (some (.arr (split cComma v)))
      | .obj => match pairUp (split cComma v) with
        | some kvs => .ok (some (.obj kvs))
        | none => .error "pairs"
      | .prim => match split cComma v with
        | [p] => .ok (some (.prim p))
        | _ => .error "multiple" := by
  unfold bindQuery
  rw [if_neg Bool.false_ne_true, qLookup_single]
  cases sh <;> rfl

theorem bindQuery_prim (explode required : Bool) (name s : Str) (hnc : cComma ∉ s) :
    bindQuery explode required name .prim [] [(name, [s])] = .ok (some (.prim s)) := by
  cases explode
  · rw [bindQuery_unexploded_single, split, List.splitOn_eq_singleton hnc]
  · unfold bindQuery; rw [if_pos rfl, qLookup_single]

theorem bindQuery_array_exploded (required : Bool) (name : Str) (xs : List Str) (hne : xs ≠ []) :
    bindQuery true required name .arr [] (qAddAll (xs.map fun x => (name, x)) []) = .ok (some (.arr xs)) := by
  have hf : (xs.map fun x => (name, x)).filter (·.1 = name) = xs.map fun x => (name, x) :=
    List.filter_eq_self.mpr (List.forall_mem_map.mpr fun _ _ => decide_eq_true rfl)
  have hq : qLookup (qAddAll (xs.map fun x => (name, x)) []) name = some xs := by
    rw [qLookup_qAddAll, hf, if_neg (mt List.map_eq_nil_iff.mp hne), List.map_map]
    exact congrArg some (List.map_id' xs)
  unfold bindQuery
  rw [if_pos rfl, hq]

theorem bindQuery_array_unexploded (required : Bool) (name : Str) (xs : List Str) (hne : xs ≠ [])
    (hnc : ∀ x ∈ xs, cComma ∉ x) :
    bindQuery false required name .arr [] [(name, [styleParam .simple false name .header (.arr xs)])] =
      .ok (some (.arr xs)) := by
  have hs : split cComma (styleParam .simple false name .header (.arr xs)) = xs := by
    simp only [styleParam, escLoc_header, List.map_id]; exact split_join cComma xs hne hnc
  rw [bindQuery_unexploded_single, hs]

/-- The binder looks each member name up: with distinct names it finds the entries one by one. -/
theorem bindQuery_object_exploded (required : Bool) (name : Str) (kvs : List (Str × Str)) (hne : kvs ≠ [])
    (hnd : (kvs.map (·.1)).Nodup) :
    bindQuery true required name .obj (kvs.map (·.1)) (kvs.map fun kv => (kv.1, [kv.2])) = .ok (some (.obj kvs)) := by
  have hfound : (kvs.map (·.1)).filterMap (fun f => (qLookup (kvs.map fun kv => (kv.1, [kv.2])) f).map fun vs => (f, vs))
      = kvs.map fun kv => (kv.1, [kv.2]) := by
    have := Assoc.filterMap_get_keys (m := kvs.map fun kv => (kv.1, [kv.2])) (by rwa [List.map_map])
    rwa [List.map_map] at this
  -- every member is found, with one value, and there is a member (`simp only [bindQuery]` is slow to check)
  unfold bindQuery
  dsimp only
  rw [if_pos rfl, hfound, List.any_eq_false.mpr (List.forall_mem_map.mpr fun _ _ => Bool.false_ne_true),
    if_neg Bool.false_ne_true, List.isEmpty_eq_false_iff.mpr (mt List.map_eq_nil_iff.mp hne), if_neg Bool.false_ne_true,
    List.map_map]
  exact congrArg (fun l => Except.ok (some (Val.obj l))) (List.map_id' kvs)

theorem bindQuery_object_unexploded (required : Bool) (name : Str) (kvs : List (Str × Str)) (hne : kvs ≠ [])
    (hkc : ∀ kv ∈ kvs, cComma ∉ kv.1) (hvc : ∀ kv ∈ kvs, cComma ∉ kv.2) :
    bindQuery false required name .obj [] [(name, [styleParam .simple false name .header (.obj kvs)])] =
      .ok (some (.obj kvs)) := by
  have hs : split cComma (styleParam .simple false name .header (.obj kvs)) = objParts false .header kvs :=
    split_join cComma _ (objParts_ne_nil false .header kvs hne) (objParts_nodelim false cComma (by decide) kvs hkc hvc)
  rw [bindQuery_unexploded_single, hs, show pairUp (objParts false .header kvs) = some kvs from pairUp_flat kvs]

end OapiVerif.Security
