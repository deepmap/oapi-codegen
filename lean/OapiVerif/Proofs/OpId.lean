import OapiVerif.Model.OpId
/-! The duplicate check of `OperationDefinitions`, for any set of identifiers seen before: when it passes and what a
refusal names. -/
namespace OapiVerif.OpId

theorem checkIds_eq_ok (ids seen : List Str) : checkIds ids seen = .ok () ↔ ids.Nodup ∧ ∀ i ∈ ids, i ∉ seen := by
  induction ids generalizing seen with
  | nil => exact ⟨fun _ => ⟨.nil, List.forall_mem_nil _⟩, fun _ => rfl⟩
  | cons i rest ih =>
    unfold checkIds
    by_cases hc : i ∈ seen
    · rw [if_pos (List.contains_iff_mem.mpr hc)]
      exact ⟨nofun, fun h => absurd hc (h.2 i List.mem_cons_self)⟩
    · rw [if_neg (mt List.contains_iff_mem.mp hc), ih, List.nodup_cons]
      exact ⟨fun h => ⟨⟨fun hm => h.2 i hm List.mem_cons_self, h.1⟩,
          List.forall_mem_cons.mpr ⟨hc, fun j hj hs => h.2 j hj (List.mem_cons_of_mem _ hs)⟩⟩,
        fun h => ⟨h.1.2, fun j hj hm => (List.mem_cons.mp hm).elim (fun e => h.1.1 (e ▸ hj)) (h.2 j (List.mem_cons_of_mem _ hj))⟩⟩

theorem checkIds_error (ids seen : List Str) (e : Str) (h : checkIds ids seen = .error e) :
    e ∈ ids ∧ (e ∈ seen ∨ 2 ≤ ids.count e) := by
  -- the cases of `checkIds`: no identifier left; `i` was seen; `i` is new
  fun_induction checkIds ids seen with
  | case1 => cases h
  | case2 i rest seen hc =>
    cases h
    exact ⟨List.mem_cons_self, .inl (by simpa using hc)⟩
  | case3 i rest seen hc ih =>
    obtain ⟨hm, hor⟩ := ih h
    refine ⟨List.mem_cons_of_mem _ hm, ?_⟩
    rcases hor with hin | hcnt
    · rcases List.mem_cons.mp hin with rfl | hin
      · exact .inr (by rw [List.count_cons_self]; exact Nat.succ_le_succ (List.count_pos_iff.mpr hm))
      · exact .inl hin
    · exact .inr (Nat.le_trans hcnt (List.count_le_count_cons ..))
end OapiVerif.OpId
