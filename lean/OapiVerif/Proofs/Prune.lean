import OapiVerif.Model.Prune
/-! The sweep of `pruneUnusedComponents` along its own recursion: every round keeps the roots and only removes components; a
round that removes something shortens the list, so among `length + 1` rounds there is one that removes nothing, and from
there on nothing changes (`pruneN_fix`); a family of components that supports itself is never touched (`pruneN_greatest`). -/
namespace OapiVerif.Prune

@[simp] theorem step_roots (d : Doc) : (step d).roots = d.roots := rfl

theorem mem_step {d : Doc} {c : Comp} :
    c ∈ (step d).comps ↔ c ∈ d.comps ∧ c.ref ∈ allRefs d := by
  simp [step]

theorem mem_allRefs {d : Doc} {r : String} : r ∈ allRefs d ↔ r ∈ d.roots ∨ ∃ c ∈ d.comps, r ∈ c.out := by
  rw [allRefs, List.mem_append, List.mem_flatMap]

theorem step_sub (d : Doc) : ∀ c, c ∈ (step d).comps → c ∈ d.comps :=
  fun _ h => (mem_step.mp h).1

theorem step_length_le (d : Doc) : (step d).comps.length ≤ d.comps.length := List.length_filter_le _ _

theorem step_eq_of_length {d : Doc} (h : (step d).comps.length = d.comps.length) : step d = d := by
  have : d.comps.filter (fun c => (allRefs d).contains c.ref) = d.comps :=
    List.filter_eq_self.mpr (List.length_filter_eq_length_iff.mp h)
  rw [step, this]

@[simp] theorem pruneN_roots (n : Nat) (d : Doc) : (pruneN n d).roots = d.roots := by
  -- the cases of `pruneN`: out of fuel; a step removes nothing; it removes something
  fun_induction pruneN n d with
  | case1 | case2 => rfl
  | case3 _ _ _ ih => exact ih

theorem pruneN_sub (n : Nat) (d : Doc) : ∀ c, c ∈ (pruneN n d).comps → c ∈ d.comps := by
  fun_induction pruneN n d with
  | case1 | case2 => exact fun _ h => h
  | case3 _ d _ ih => exact fun c h => step_sub d c (ih c h)

theorem pruneN_fix (n : Nat) (d : Doc) (h : d.comps.length < n) : step (pruneN n d) = pruneN n d := by
  fun_induction pruneN n d with
  | case1 => exact absurd h (Nat.not_lt_zero _)
  | case2 _ _ heq => exact step_eq_of_length heq
  | case3 _ d hne ih =>
    exact ih (Nat.lt_of_lt_of_le (Nat.lt_of_le_of_ne (step_length_le d) hne) (Nat.le_of_lt_succ h))

theorem pruneN_greatest (S : Comp → Prop) (n : Nat) (d : Doc)
    (hS : ∀ c, S c → c ∈ d.comps ∧ (c.ref ∈ d.roots ∨ ∃ c', S c' ∧ c.ref ∈ c'.out)) :
    ∀ c, S c → c ∈ (pruneN n d).comps := by
  fun_induction pruneN n d with
  | case1 | case2 => exact fun c h => (hS c h).1
  | case3 _ d _ ih =>
    refine ih fun c hc => ?_
    obtain ⟨hm, hsup⟩ := hS c hc
    exact ⟨mem_step.mpr ⟨hm, mem_allRefs.mpr (hsup.imp_right fun ⟨c', hc', ho⟩ => ⟨c', (hS c' hc').1, ho⟩)⟩, hsup⟩
end OapiVerif.Prune
