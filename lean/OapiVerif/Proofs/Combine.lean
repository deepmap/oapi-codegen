import OapiVerif.Model.Combine
/-! `CombineOperationParameters` characterised completely: each of its two loops returns its input when no (location, name)
repeats and fails otherwise, and the second loop is the first one run on what the operation does not shadow. -/
namespace OapiVerif.Combine

theorem hasKey_iff (ds : List Decl) (k : Nat × Str) : hasKey ds k = true ↔ ∃ d ∈ ds, d.key = k := by
  simp [hasKey]

theorem hasKey_reverse (ds : List Decl) (k : Nat × Str) : hasKey ds.reverse k = hasKey ds k := by
  simp [hasKey]

theorem hasKey_cons (d : Decl) (ds : List Decl) (k : Nat × Str) : hasKey (d :: ds) k = (d.key == k || hasKey ds k) := by
  simp [hasKey]

theorem locals_eq_ok (l acc r : List Decl) :
    locals l acc = .ok r ↔ r = acc.reverse ++ l ∧ (l.map Decl.key).Nodup ∧ ∀ d ∈ l, hasKey acc d.key = false := by
  induction l generalizing acc with
  | nil =>
    simp only [locals, Except.ok.injEq, List.append_nil, List.map_nil, List.nodup_nil, List.not_mem_nil, false_imp_iff,
      implies_true, and_true]
    exact eq_comm
  | cons d rest ih =>
    unfold locals
    cases hk : hasKey acc d.key
    · simp only [Bool.false_eq_true, if_false, ih, hasKey_cons, Bool.or_eq_false_iff, beq_eq_false_iff_ne,
        List.reverse_cons, List.append_assoc, List.singleton_append, List.map_cons, List.nodup_cons, List.mem_map,
        List.mem_cons, forall_eq_or_imp, hk, true_and, not_exists, not_and]
      constructor
      · rintro ⟨h1, h2, h3⟩; exact ⟨h1, ⟨fun e he => (h3 e he).1 ∘ Eq.symm, h2⟩, fun e he => (h3 e he).2⟩
      · rintro ⟨h1, ⟨h2, h3⟩, h4⟩; exact ⟨h1, h3, fun e he => ⟨h2 e he ∘ Eq.symm, h4 e he⟩⟩
    · simp only [if_true, reduceCtorEq, false_iff, not_and]
      intro _ _ h
      rw [h d List.mem_cons_self] at hk
      cases hk

theorem globals_eq_ok (loc g acc r : List Decl) :
    globals loc g acc = .ok r ↔ locals (g.filter fun d => !hasKey loc d.key) acc = .ok r := by
  -- the cases of `globals`: nothing left; the operation shadows `d`; its key was seen (the refusal); it is new
  fun_induction globals loc g acc with
  | case1 acc => rfl
  | case2 d rest acc hk ih => rw [List.filter_cons, hk, ih]; rfl
  | case3 d rest acc hk ha => rw [List.filter_cons]; simp [hk, locals, ha]
  | case4 d rest acc hk ha ih => rw [List.filter_cons, ih]; simp [hk, locals, ha]

theorem combine_eq_ok (g l r : List Decl) :
    combine g l = .ok r ↔ r = l ++ g.filter (fun d => !hasKey l d.key) ∧ (l.map Decl.key).Nodup ∧
      ((g.filter fun d => !hasKey l d.key).map Decl.key).Nodup := by
  have hloc : ∀ x r, locals x [] = .ok r ↔ r = x ∧ (x.map Decl.key).Nodup := fun x r =>
    (locals_eq_ok x [] r).trans ⟨fun h => ⟨h.1, h.2.1⟩, fun h => ⟨h.1, h.2, fun _ _ => rfl⟩⟩
  unfold combine
  cases hl : locals l [] with
  | error e =>
    refine ⟨nofun, fun h => ?_⟩
    rw [(hloc l l).mpr ⟨rfl, h.2.1⟩] at hl
    cases hl
  | ok l' =>
    obtain ⟨rfl, hnd⟩ := (hloc l l').mp hl
    dsimp only
    cases hg : globals l' g [] with
    | error e =>
      refine ⟨nofun, fun h => ?_⟩
      rw [(globals_eq_ok l' g [] _).mpr ((hloc _ _).mpr ⟨rfl, h.2.2⟩)] at hg
      cases hg
    | ok g' =>
      obtain ⟨rfl, hgn⟩ := (hloc _ g').mp ((globals_eq_ok l' g [] g').mp hg)
      exact ⟨fun h => ⟨(Except.ok.inj h).symm, hnd, hgn⟩, fun h => h.1 ▸ rfl⟩

/-- What the operation does not shadow shares no key with it. -/
theorem nodup_combined (g l : List Decl) :
    ((l ++ g.filter fun d => !hasKey l d.key).map Decl.key).Nodup ↔
      (l.map Decl.key).Nodup ∧ ((g.filter fun d => !hasKey l d.key).map Decl.key).Nodup := by
  rw [List.map_append, List.nodup_append]
  refine ⟨fun h => ⟨h.1, h.2.1⟩, fun h => ⟨h.1, h.2, ?_⟩⟩
  intro a ha b hb hab
  obtain ⟨d, hd, hkd⟩ := List.mem_map.mp ha
  obtain ⟨e, he, hke⟩ := List.mem_map.mp hb
  have hf := (List.mem_filter.mp he).2
  rw [(hasKey_iff l e.key).mpr ⟨d, hd, by rw [hkd, hke, hab]⟩] at hf
  cases hf

end OapiVerif.Combine
