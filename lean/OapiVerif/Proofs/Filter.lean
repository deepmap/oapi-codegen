import OapiVerif.Model.Filter
/-!
The tag and operation-id filters (Model/Filter.lean): a guarded exclusion pass followed by a guarded inclusion pass is one
`List.filter`, because an empty list matches nothing.
-/
namespace OapiVerif.Filter

theorem hasTag_nil (op : Op) : hasTag op [] = false := by
  simp [hasTag]

theorem hasId_nil (op : Op) : hasId op [] = false := by
  simp [hasId]

theorem excl_pass (ops : List Op) (l : List String) (h : Op → List String → Bool)
    (hnil : ∀ op, h op [] = false) :
    (if l.length > 0 then ops.filter (fun op => h op l != true) else ops)
      = ops.filter (fun op => !h op l) := by
  cases l with
  | nil => simp [hnil, List.filter_eq_self.mpr]
  | cons a t => simp

theorem incl_pass (ops : List Op) (l : List String) (h : Op → List String → Bool) :
    (if l.length > 0 then ops.filter (fun op => h op l != false) else ops)
      = ops.filter (fun op => l.isEmpty || h op l) := by
  cases l with
  | nil => simp [List.filter_eq_self.mpr]
  | cons a t => simp

theorem two_pass (h : Op → List String → Bool) (hnil : ∀ op, h op [] = false) (ex incl : List String) (ops : List Op) :
    (let o1 := if ex.length > 0 then ops.filter (fun op => h op ex != true) else ops
     if incl.length > 0 then o1.filter (fun op => h op incl != false) else o1)
      = ops.filter (fun op => !h op ex && (incl.isEmpty || h op incl)) := by
  dsimp only
  rw [excl_pass ops ex h hnil, incl_pass _ incl h, List.filter_filter]
  exact List.filter_congr fun x _ => Bool.and_comm _ _

theorem filterByTag_eq (cfg : Cfg) (ops : List Op) :
    filterByTag cfg ops =
      ops.filter (fun op => (!hasTag op cfg.exclTags) && (cfg.inclTags.isEmpty || hasTag op cfg.inclTags)) :=
  two_pass hasTag hasTag_nil cfg.exclTags cfg.inclTags ops

theorem filterById_eq (cfg : Cfg) (ops : List Op) :
    filterById cfg ops =
      ops.filter (fun op => (!hasId op cfg.exclIds) && (cfg.inclIds.isEmpty || hasId op cfg.inclIds)) :=
  two_pass hasId hasId_nil cfg.exclIds cfg.inclIds ops

end OapiVerif.Filter
