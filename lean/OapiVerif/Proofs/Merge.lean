import OapiVerif.Model.Merge
import OapiVerif.Proofs.Assoc
/-!
The allOf merge (Model/Merge.lean). What the properties ask of a successful merge — has property `k`, requires `k`, forbids
additional properties, has type `t`, has format `f`, … — is each an `Additive` observation: it holds of the result of one
merge step iff it holds of an operand. An additive observation holds of the merge of a list, flat or nested, iff it holds of
a member.
-/
namespace OapiVerif.Merge

theorem mem_keys_insertProp (m : List (String × Nat)) (k : String) (v : Nat) (k' : String) :
    k' ∈ keys (insertProp m k v) ↔ k' ∈ keys m ∨ k' = k := by
  rw [keys, insertProp, Assoc.set_eq_alter, Assoc.keys_alter]
  split
  · exact ⟨Or.inl, fun h => h.elim id (· ▸ ‹_›)⟩
  · rw [List.mem_append, List.mem_singleton]; rfl

theorem mem_keys_mergeProps (p1 p2 : List (String × Nat)) (k : String) :
    k ∈ keys (mergeProps p1 p2) ↔ k ∈ keys p1 ∨ k ∈ keys p2 := by
  unfold mergeProps
  induction p2 generalizing p1 with
  | nil => exact (or_iff_left List.not_mem_nil).symm
  | cons e t ih =>
    rw [List.foldl_cons, ih, mem_keys_insertProp, or_assoc]
    show _ ↔ _ ∨ k ∈ e.1 :: keys t
    rw [List.mem_cons]

structure Merge2 (s1 s2 r : Flat) : Prop where
  props : r.props = mergeProps s1.props s2.props
  required : r.required = s1.required ++ s2.required
  type : r.type = s1.type.or s2.type
  type_compat : ∀ t₁ t₂, s1.type = some t₁ → s2.type = some t₂ → t₁ = t₂
  format : r.format = s1.format ∧ r.format = s2.format
  forbid : explicitFalse r = (explicitFalse s1 || explicitFalse s2)
  addl : explicitFalse r = false →
    r.addlSchema = s1.addlSchema.or s2.addlSchema ∧ (s1.addlSchema = none ∨ s2.addlSchema = none)

theorem merge2_ok {s1 s2 r : Flat} (h : merge2 s1 s2 = .ok r) : Merge2 s1 s2 r := by
  have hty : (if s1.type.isSome then s1.type else s2.type) = s1.type.or s2.type := by cases s1.type <;> rfl
  have ty : ¬(s1.type.isSome && s2.type.isSome && s1.type != s2.type) = true →
      ∀ t₁ t₂, s1.type = some t₁ → s2.type = some t₂ → t₁ = t₂ := fun ht t₁ t₂ e₁ e₂ => by simpa [e₁, e₂] using ht
  have fm : ¬(s1.format != s2.format) = true → s1.format = s2.format := fun hf => by simpa using hf
  revert h
  -- in the order of the definition: the four guards, a forbidding operand, then the four combinations of the two
  -- additionalProperties schemas (two of them an error), the last split by `addlHas`
  fun_cases merge2 s1 s2 <;> intro h
  case case1 | case2 | case3 | case4 | case6 => cases h
  case case5 ht hf _ _ _ he =>
    cases h; exact ⟨rfl, rfl, hty, ty ht, ⟨rfl, fm hf⟩, he.symm, fun h => by cases h⟩
  case case7 ht hf _ _ _ he _ h2 h1 =>
    cases h; exact ⟨rfl, rfl, hty, ty ht, ⟨rfl, fm hf⟩, ((Bool.not_eq_true _).mp he).symm, fun _ => ⟨by rw [h1, h2]; rfl, .inr h2⟩⟩
  case case8 ht hf _ _ _ he _ h2 h1 =>
    cases h; exact ⟨rfl, rfl, hty, ty ht, ⟨rfl, fm hf⟩, ((Bool.not_eq_true _).mp he).symm, fun _ => ⟨by rw [h1, h2]; rfl, .inl h1⟩⟩
  case case9 ht hf _ _ _ he h2 h1 _ | case10 ht hf _ _ _ he h2 h1 _ =>
    have e := Except.ok.inj h; subst e
    exact ⟨rfl, rfl, hty, ty ht, ⟨rfl, fm hf⟩, ((Bool.not_eq_true _).mp he).symm, fun _ => ⟨by rw [h1, h2]; rfl, .inl h1⟩⟩

/-- `P` holds of the result of a merge step iff it holds of one of the two operands. -/
def Additive (P : Flat → Prop) : Prop := ∀ {a s r : Flat}, merge2 a s = .ok r → (P r ↔ P a ∨ P s)

theorem additive_props (k : String) : Additive (k ∈ keys ·.props) := fun h => by
  dsimp only; rw [(merge2_ok h).props, mem_keys_mergeProps]

theorem additive_required (k : String) : Additive (k ∈ ·.required) := fun h => by
  dsimp only; rw [(merge2_ok h).required, List.mem_append]

theorem additive_forbid : Additive (explicitFalse · = true) := fun h => by
  dsimp only; rw [(merge2_ok h).forbid, Bool.or_eq_true]

theorem additive_type (t : Nat) : Additive (·.type = some t) := fun {a s r} h => by
  dsimp only; rw [(merge2_ok h).type]
  cases ha : a.type with
  | none => simp
  | some u => cases hs : s.type with
    | none => simp
    | some v => simp [(merge2_ok h).type_compat u v ha hs]

theorem additive_format (f : Nat) : Additive (·.format = f) := fun h => by
  dsimp only; rw [← (merge2_ok h).format.1, ← (merge2_ok h).format.2, or_self]

/-- "forbids additional properties, or allows them with value schema `a`": the second alone is not additive, since
a forbidding operand erases the schema. -/
theorem additive_addl (a : Nat) : Additive fun s => explicitFalse s = true ∨ s.addlSchema = some a :=
  fun {x s r} h => by
  have hf := (merge2_ok h).forbid
  dsimp only
  cases hr : explicitFalse r with
  | true =>
    exact iff_of_true (.inl rfl) ((Bool.or_eq_true_iff.mp (hf.symm.trans hr)).imp .inl .inl)
  | false =>
    rw [hr, eq_comm, Bool.or_eq_false_iff] at hf
    obtain ⟨hrs, hone⟩ := (merge2_ok h).addl hr
    rw [hrs, hf.1, hf.2]
    rcases hone with h0 | h0 <;> simp [h0]

theorem mergeFrom_additive {P : Flat → Prop} (hP : Additive P) {acc : Flat} {rest : List Flat} {r : Flat}
    (h : mergeFrom merge2 acc rest = .ok r) : P r ↔ P acc ∨ ∃ s ∈ rest, P s := by
  -- the cases of `mergeFrom`: no member left; the step fails; it gives `r0`
  fun_induction mergeFrom merge2 acc rest with
  | case1 => cases h; simp
  | case2 => cases h
  | case3 acc s rest r0 h0 ih => rw [ih h, hP h0, or_assoc]; simp only [List.mem_cons, exists_eq_or_imp]

-- without `¬ P zero`, which fails for "has format 0"
theorem mergeList_of_mem {P : Flat → Prop} (hP : Additive P) {ms : List Flat} {r m : Flat}
    (h : mergeList ms = .ok r) (hm : m ∈ ms) (hPm : P m) : P r := by
  cases ms with
  | nil => cases hm
  | cons s rest =>
    refine (mergeFrom_additive hP h).mpr ?_
    rcases List.mem_cons.mp hm with rfl | hm
    · exact .inl hPm
    · exact .inr ⟨m, hm, hPm⟩

/-- **An additive observation holds of the merge of a list iff it holds of a member.** -/
theorem mergeList_additive {P : Flat → Prop} (hP : Additive P) (h0 : ¬ P zero) {ms : List Flat} {r : Flat}
    (h : mergeList ms = .ok r) : P r ↔ ∃ m ∈ ms, P m := by
  cases ms with
  | nil => cases h; simp [h0]
  | cons s rest => rw [mergeFrom_additive hP h]; simp only [List.mem_cons, exists_eq_or_imp]

mutual
theorem resolve_additive {P : Flat → Prop} (hP : Additive P) (h0 : ¬ P zero) :
    ∀ (s : Sch) (r : Flat), resolve s = .ok r → (P r ↔ ∃ l ∈ leaves s, P l)
  | .mk f [] => fun r h => by cases h; simp [leaves]
  | .mk f (m :: ms) => fun r h => (resolveFrom_additive hP h0 zero (m :: ms) r h).trans (or_iff_right h0)

theorem resolveFrom_additive {P : Flat → Prop} (hP : Additive P) (h0 : ¬ P zero) :
    ∀ (acc : Flat) (ss : List Sch) (r : Flat), resolveFrom acc ss = .ok r → (P r ↔ P acc ∨ ∃ l ∈ leavesL ss, P l)
  | acc, [] => fun r h => by cases h; simp [leavesL]
  | acc, s :: rest => fun r h => by
    rw [resolveFrom] at h
    split at h
    · cases h
    · rename_i r0 hr0
      split at h
      · cases h
      · rename_i a ha
        rw [resolveFrom_additive hP h0 a rest r h, hP ha, resolve_additive hP h0 s r0 hr0, or_assoc]
        simp only [leavesL, List.mem_append, or_and_right, exists_or]
end

/-- … and of the merge of operands with nested allOf lists iff it holds of a leaf. -/
theorem mergeTop_additive {P : Flat → Prop} (hP : Additive P) (h0 : ¬ P zero) {ms : List Sch} {r : Flat}
    (h : mergeTop ms = .ok r) : P r ↔ ∃ l ∈ leavesL ms, P l := by
  -- the cases of `mergeTop`: no member; the first member does not resolve; it resolves to `a`
  revert h
  fun_cases mergeTop ms <;> intro h
  case case1 => cases h; simp [leavesL, h0]
  case case2 => cases h
  case case3 m rest a ha =>
    rw [resolveFrom_additive hP h0 a rest r h, resolve_additive hP h0 m a ha]
    simp only [leavesL, List.mem_append, or_and_right, exists_or]

end OapiVerif.Merge
