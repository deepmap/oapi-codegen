import OapiVerif.Proofs.Security
import OapiVerif.Proofs.Codec
import OapiVerif.Proofs.CodecSplit
import OapiVerif.Proofs.Assoc
/-!
`url.ParseQuery` on `&`-joined `key=value` segments, and what `Values.Add` leaves under a name. Used by the query
parameters of C04 and by `C18_query_wire_roundtrip` (`url.ParseQuery (Values.Encode q)` gives back every value of every
name, in order). Most of this file and of Proofs/QueryParam.lean is about `Codec.parseQuery` / `Codec.bindQuery`; it stands in
namespace `Security` because the statements of C04 and C18 name `Security.NameOk` and `Security.Bytes` (a predicate; `Embed.Bytes`
is a type).
-/
namespace OapiVerif.Security
open OapiVerif.Codec OapiVerif.Escape

theorem qLookup_qAdd (m : Query) (a v k : Str) :
    qLookup (qAdd m a v) k = if a = k then some ((qLookup m a).getD [] ++ [v]) else qLookup m k :=
  hGet_upd (· ++ [v]) m a k

/-- Query-escaped text contains none of `&`, `;`, `=`. -/
theorem escape_query_safe (s : Str) (hs : ∀ b ∈ s, b < 256) :
    ∀ c ∈ escape .query s, c ≠ 38 ∧ c ≠ 59 ∧ c ≠ 61 := by
  intro c hc
  rcases escape_unreserved .query s hs c hc with rfl | rfl | h
  · decide
  · decide
  · refine ⟨?_, ?_, ?_⟩ <;> (rintro rfl; exact absurd h (by decide))

/-- The pairs `Values.Encode` writes: names in sorted order, the values of a name in their order. -/
def pairsOf (q : Query) : List (Str × Str) :=
  ((q.map (·.1)).mergeSort Walks.kle).flatMap fun k => ((qLookup q k).getD []).map fun v => (k, v)

def Bytes (s : List Nat) : Prop := ∀ b ∈ s, b < 256

theorem span_no_eq (a : Str) (rest : Str) (h : ∀ c ∈ a, c ≠ 61) :
    (a ++ 61 :: rest).span (· != cEq) = (a, 61 :: rest) :=
  span_append_cons rest (fun c hc => bne_iff_ne.mpr (h c hc)) (bne_self_eq_false _)

/-- The loop body of `url.ParseQuery`: the step that `parseQuery` folds over the segments, under a name. -/
def parseStep (q : Query) (s : Str) : Except String Query :=
  if s = [] then pure q else
  if s.contains cSemi then throw "semicolon" else
  let (k, v) := match s.span (· != cEq) with
    | (k, []) => (k, [])
    | (k, _ :: v) => (k, v)
  match unescape .query k, unescape .query v with
  | some k', some v' => pure (qAdd q k' v')
  | _, _ => throw "unescape"

/-- `Values.Add` of every pair in turn. -/
def qAddAll (ps : List (Str × Str)) (m : Query) : Query := ps.foldl (fun m kv => qAdd m kv.1 kv.2) m

/-- `w` is what a query key or value `r` looks like on the wire: no query delimiter in it, and it un-escapes to `r`. -/
def QDec (w r : Str) : Prop := (∀ c ∈ w, c ≠ 38 ∧ c ≠ 59 ∧ c ≠ 61) ∧ unescape .query w = some r

theorem QDec.escape {s : Str} (hs : Bytes s) : QDec (escape .query s) s :=
  ⟨escape_query_safe s hs, unescape_escape .query s hs⟩

theorem parseStep_kv (acc : Query) {kw vw k v : Str} (hk : QDec kw k) (hv : QDec vw v) :
    parseStep acc (kw ++ [61] ++ vw) = .ok (qAdd acc k v) := by
  have hsemi := not_mem_kv (c := cSemi) (by decide) (fun h => (hk.1 _ h).2.1 rfl) fun h => (hv.1 _ h).2.1 rfl
  unfold parseStep
  rw [if_neg (List.append_ne_nil_of_left_ne_nil (List.append_ne_nil_of_right_ne_nil kw (List.cons_ne_nil _ _)) vw),
    List.contains_eq_mem, decide_eq_false hsemi, if_neg Bool.false_ne_true,
    List.append_assoc, List.singleton_append, span_no_eq _ _ (fun c hc => (hk.1 c hc).2.2)]
  simp only [hk.2, hv.2]
  rfl

/-- `url.ParseQuery` on `&`-joined `key=value` segments is the fold of `Values.Add` over what they decode to. -/
theorem parseQuery_join {α : Type} (l : List α) (kw vw k v : α → Str)
    (h : ∀ a ∈ l, QDec (kw a) (k a) ∧ QDec (vw a) (v a)) :
    parseQuery (join [cAmp] (l.map fun a => kw a ++ [61] ++ vw a)) =
      .ok (qAddAll (l.map fun a => (k a, v a)) []) := by
  have fold : ∀ (l : List α) (acc : Query), (∀ a ∈ l, QDec (kw a) (k a) ∧ QDec (vw a) (v a)) →
      (l.map fun a => kw a ++ [61] ++ vw a).foldlM parseStep acc = .ok (qAddAll (l.map fun a => (k a, v a)) acc) := by
    intro l
    induction l with
    | nil => intro _ _; rfl
    | cons a t ih =>
      intro acc h
      have h0 := h a List.mem_cons_self
      rw [List.map_cons, List.foldlM_cons, parseStep_kv acc h0.1 h0.2]
      exact ih _ fun b hb => h b (List.mem_cons_of_mem a hb)
  show (split cAmp _).foldlM parseStep [] = _
  cases l with
  | nil => rfl
  | cons a t =>
    rw [split_join cAmp _ (join_map_ne_nil _ _ (List.cons_ne_nil a t)) (List.forall_mem_map.mpr fun b hb =>
      not_mem_kv (by decide) (fun hm => ((h b hb).1.1 _ hm).1 rfl) fun hm => ((h b hb).2.1 _ hm).1 rfl)]
    exact fold _ [] h

theorem parse_encode (q : Query) (hb : ∀ kv ∈ pairsOf q, Bytes kv.1 ∧ Bytes kv.2) :
    parseQuery (encodeQuery q) = .ok (qAddAll (pairsOf q) []) := by
  have := parseQuery_join (pairsOf q) (escape .query ·.1) (escape .query ·.2) (·.1) (·.2)
    (fun kv h => ⟨QDec.escape (hb kv h).1, QDec.escape (hb kv h).2⟩)
  rw [List.map_id'] at this
  rw [← this, encodeQuery, pairsOf]
  simp only [List.map_flatMap, List.map_map]
  rfl

theorem qLookup_qAddAll (ps : List (Str × Str)) (m : Query) (k : Str) :
    qLookup (qAddAll ps m) k =
      if ps.filter (·.1 = k) = [] then qLookup m k
      else some ((qLookup m k).getD [] ++ (ps.filter (·.1 = k)).map (·.2)) := by
  induction ps generalizing m with
  | nil => rfl
  | cons kv t ih =>
    simp only [qAddAll, List.foldl_cons] at ih ⊢
    rw [ih, qLookup_qAdd]
    by_cases h : kv.1 = k <;> by_cases ht : t.filter (·.1 = k) = [] <;> simp [h, ht]

theorem getD_qAddAll (ps : List (Str × Str)) (m : Query) (k : Str) :
    (qLookup (qAddAll ps m) k).getD [] = (qLookup m k).getD [] ++ (ps.filter (·.1 = k)).map (·.2) := by
  rw [qLookup_qAddAll]
  split <;> simp [*]

theorem qAddAll_distinct (ps : List (Str × Str)) (m : Query) (hnd : (ps.map (·.1)).Nodup)
    (hdis : ∀ e ∈ m, ∀ p ∈ ps, e.1 ≠ p.1) :
    qAddAll ps m = m ++ ps.map (fun kv => (kv.1, [kv.2])) := by
  induction ps generalizing m with
  | nil => simp [qAddAll]
  | cons p t ih =>
    rw [List.map_cons, List.nodup_cons] at hnd
    have hp : qAdd m p.1 p.2 = m ++ [(p.1, [p.2])] :=
      Assoc.alter_fresh (fun o => o.getD [] ++ [p.2]) fun e he => hdis e he p (by simp)
    rw [qAddAll, List.foldl_cons, hp, ← qAddAll, ih _ hnd.2]
    · simp
    · intro e he q hq
      rcases List.mem_append.mp he with he | he
      · exact hdis e he q (by simp [hq])
      · rw [List.mem_singleton.mp he]
        exact fun heq => hnd.1 (List.mem_map.mpr ⟨q, hq, heq.symm⟩)

theorem filter_flatMap_key (ks : List Str) (f : Str → List Str) (hnd : ks.Nodup) (k : Str) :
    ((ks.flatMap fun a => (f a).map fun v => (a, v)).filter (·.1 = k)).map (·.2) = if k ∈ ks then f k else [] := by
  induction ks with
  | nil => simp
  | cons a t ih =>
    simp only [List.nodup_cons] at hnd
    simp only [List.flatMap_cons, List.filter_append, List.map_append, ih hnd.2, List.filter_map]
    by_cases ha : a = k
    · subst ha; simp [hnd.1, Function.comp_def]
    · simp [ha, Ne.symm ha]

theorem mem_pairsOf {q : Query} {kv : Str × Str} (h : kv ∈ pairsOf q) : ∃ vs, (kv.1, vs) ∈ q ∧ kv.2 ∈ vs := by
  simp only [pairsOf, List.mem_flatMap, List.mem_map] at h
  obtain ⟨k, _, v, hv, rfl⟩ := h
  cases hl : qLookup q k with
  | none => simp [hl] at hv
  | some vs => exact ⟨vs, Assoc.mem_of_get hl, by simpa [hl] using hv⟩

theorem pairsOf_values (q : Query) (hk : (q.map (·.1)).Nodup) (k : Str) :
    ((pairsOf q).filter (·.1 = k)).map (·.2) = (qLookup q k).getD [] := by
  have hnd : ((q.map (·.1)).mergeSort Walks.kle).Nodup := (List.mergeSort_perm _ _).nodup_iff.mpr hk
  rw [pairsOf, filter_flatMap_key _ (fun a => (qLookup q a).getD []) hnd k]
  split
  · rfl
  · next hm => rw [show qLookup q k = none from Assoc.get_of_not_mem_keys fun h => hm (List.mem_mergeSort.mpr h)]; rfl

end OapiVerif.Security
