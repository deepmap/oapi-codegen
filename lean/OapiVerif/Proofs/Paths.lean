import OapiVerif.Model.Paths
import OapiVerif.Proofs.Lists
/-! On a well-formed template the scanner of `pathParamRE` recovers the declared segments (`scan_render`); what the
translations, `OrderedParamsFromUri`, `SortParamsByPath` and the router then do is read off the token stream. -/
namespace OapiVerif.Paths

theorem matchBody_name (n r : Str) (hne : n ≠ []) (hn : n.all nameChar = true) :
    matchBody (n ++ cClose :: r) = some (n, r) := by
  have hx : ¬ nameChar cClose = true := by decide
  have ha := List.all_eq_true.mp hn
  rw [matchBody, List.takeWhile_append_of_pos ha, List.dropWhile_append_of_pos ha,
    List.takeWhile_cons_of_neg hx, List.dropWhile_cons_of_neg hx, List.append_nil]
  cases n with
  | nil => exact absurd rfl hne
  | cons a t => rfl

theorem matchAt_name (n r : Str) (hne : n ≠ []) (hn : n.all nameChar = true)
    (hp : prefixChar (n.headD 0) = false) : matchAt (n ++ cClose :: r) = some (n, r) := by
  cases n with
  | nil => exact absurd rfl hne
  | cons a t => exact (if_neg (Bool.eq_false_iff.mp hp)).trans (matchBody_name (a :: t) r hne hn)

theorem scanN_lit (n : Nat) {c : Nat} (t : Str) (h : c ≠ cOpen) : scanN (n + 1) (c :: t) = .lit c :: scanN n t := if_neg h

theorem scanN_var (n : Nat) {t name rest : Str} (h : matchAt t = some (name, rest)) :
    scanN (n + 1) (cOpen :: t) = .var name :: scanN n rest := by
  show (match matchAt t with | some (name, rest) => Tok.var name :: scanN n rest | none => _) = _
  rw [h]

theorem scanN_lits (s : Str) (hs : s.all (fun c => c != cOpen) = true) (rest : Str) (n : Nat) :
    scanN (n + s.length) (s ++ rest) = s.map .lit ++ scanN n rest := by
  induction s with
  | nil => rfl
  | cons a t ih =>
    obtain ⟨ha, ht⟩ := Bool.and_eq_true_iff.mp hs
    exact (scanN_lit _ _ (bne_iff_ne.mp ha)).trans (congrArg _ (ih ht))

theorem render_cons (sg : Seg) (t : List Seg) : render (sg :: t) = cSlash :: (renderSeg sg ++ render t) := by
  simp [render]

theorem toks_cons (sg : Seg) (t : List Seg) : toks (sg :: t) = .lit cSlash :: (segToks sg ++ toks t) := by
  simp [toks]

/-- every character of a literal takes one unit of fuel, a whole `{name}` one: the length of the text is enough -/
theorem scanN_render (segs : List Seg) (hwf : ∀ sg ∈ segs, wfSeg sg = true) (n : Nat) :
    scanN (n + (render segs).length) (render segs) = toks segs := by
  induction segs generalizing n with
  | nil => cases n <;> rfl
  | cons sg t ih =>
    have iht := ih fun x hx => hwf x (List.mem_cons_of_mem _ hx)
    have hsg := hwf sg (List.mem_cons_self ..)
    rw [render_cons, toks_cons, List.length_cons, ← Nat.add_assoc]
    refine (scanN_lit _ _ (by decide)).trans (congrArg _ ?_)
    cases sg with
    | static s =>
      simp only [renderSeg, segToks]
      rw [List.length_append, Nat.add_comm s.length, ← Nat.add_assoc, scanN_lits s hsg, iht]
    | var nm =>
      simp only [wfSeg, Bool.and_eq_true, Bool.not_eq_true', List.isEmpty_eq_false_iff] at hsg
      obtain ⟨⟨hne, hall⟩, hp⟩ := hsg
      simp only [renderSeg, segToks, List.cons_append, List.nil_append, List.length_cons, ← Nat.add_assoc]
      rw [← List.append_cons, scanN_var _ (matchAt_name nm (render t) hne hall hp), List.length_append,
        List.length_cons, ← Nat.add_assoc, ← Nat.add_assoc, Nat.add_right_comm, iht]

theorem scan_render (segs : List Seg) (hwf : ∀ sg ∈ segs, wfSeg sg = true) :
    scan (render segs) = toks segs := by
  rw [scan, Nat.add_comm]; exact scanN_render segs hwf 1

@[simp] theorem tokVar_lit (c : Nat) : tokVar (.lit c) = none := rfl
@[simp] theorem tokVar_var (n : Str) : tokVar (.var n) = some n := rfl
@[simp] theorem segVar_static (s : Str) : segVar (.static s) = none := rfl
@[simp] theorem segVar_var (n : Str) : segVar (.var n) = some n := rfl

theorem filterMap_lits (s : Str) : (s.map Tok.lit).filterMap tokVar = [] := by
  rw [List.filterMap_map]
  exact List.filterMap_eq_nil_iff.mpr fun _ _ => rfl

theorem flatMap_lits (op cl : Str) (s : Str) : (s.map Tok.lit).flatMap (tokStr op cl) = s := by
  induction s with
  | nil => rfl
  | cons a t ih => simp [tokStr, ih]

theorem filterMap_toks (segs : List Seg) : (toks segs).filterMap tokVar = segs.filterMap segVar := by
  induction segs with
  | nil => rfl
  | cons sg t ih =>
    rw [toks_cons, List.filterMap_cons_none (tokVar_lit _), List.filterMap_append, ih]
    cases sg with | static s => exact congrArg (· ++ _) (filterMap_lits s) | var n => rfl

/-- Every translation of the family acts on a well-formed template segment by segment: static text stays, a variable is
written between the framework's two markers. -/
theorem translate_render (op cl : Str) (segs : List Seg) (hwf : ∀ sg ∈ segs, wfSeg sg = true) :
    translate op cl (render segs) =
      segs.flatMap fun sg => cSlash :: match sg with | .static s => s | .var n => op ++ n ++ cl := by
  simp only [translate, scan_render segs hwf, toks, List.flatMap_assoc]
  congr 1; funext sg
  cases sg <;> simp [segToks, tokStr, flatMap_lits]

theorem pick_ok (ps : List Param) (names : List Str) (out : List Param) (h : pick ps names = .ok out) :
    out.map (·.name) = names ∧ ∀ p ∈ out, p ∈ ps := by
  -- the cases of `pick`: no name left; the name is not declared; it is `p` and the rest is picked; … and the rest fails
  fun_induction pick ps names generalizing out with
  | case1 => cases h; exact ⟨rfl, fun _ h => nomatch h⟩
  | case2 n ns hf => cases h
  | case3 n ns p hf r hp ih =>
    cases h
    obtain ⟨hm, hn⟩ := find?_key_some hf
    obtain ⟨h1, h2⟩ := ih r hp
    exact ⟨by rw [List.map_cons, h1, hn], fun q hq => (List.mem_cons.mp hq).elim (· ▸ hm) (h2 q)⟩
  | case4 n ns p hf e hp ih => cases h

theorem pick_of_sort {path : Str} {ps out : List Param} (h : sortParamsByPath path ps = .ok out) :
    pick ps (orderedParams path) = .ok out := by
  unfold sortParamsByPath at h
  split at h
  · cases h
  · exact h

theorem pick_perm (ps ps' : List Param) (hp : ps.Perm ps') (hnd : (ps.map (·.name)).Nodup) (names : List Str) :
    pick ps names = pick ps' names := by
  induction names with
  | nil => rfl
  | cons n ns ih => simp only [pick, findByName, find?_perm_of_key hp hnd n, ih]

theorem mem_candidates {ops : List Op} {m : Nat} {path : List Str} {o : Op} :
    o ∈ candidates ops m path ↔ o ∈ ops ∧ o.method = m ∧ (matchSegs o.segs path).isSome = true := by
  simp [candidates]

theorem foldl_better_mem (c : Op) (cs : List Op) : cs.foldl better c ∈ c :: cs := by
  induction cs generalizing c with
  | nil => exact List.mem_cons_self
  | cons x t ih =>
    have hb : better c x = c ∨ better c x = x := by unfold better; split <;> simp
    rcases List.mem_cons.mp (ih (better c x)) with h | h
    · rw [List.foldl_cons, h]
      rcases hb with e | e <;> rw [e]
      · exact List.mem_cons_self
      · exact .tail _ List.mem_cons_self
    · exact .tail _ (.tail _ h)

theorem route_some {ops : List Op} {m : Nat} {path : List Str} {o : Op} {b : List (Str × Str)}
    (h : route ops m path = some (o, b)) : o ∈ candidates ops m path ∧ matchSegs o.segs path = some b := by
  unfold route at h
  split at h
  · cases h
  · next c cs hc =>
    obtain ⟨b', hb', heq⟩ := Option.map_eq_some_iff.mp h
    cases heq
    exact ⟨hc ▸ foldl_better_mem c cs, hb'⟩

theorem route_eq_none_iff (ops : List Op) (m : Nat) (path : List Str) :
    route ops m path = none ↔ candidates ops m path = [] := by
  unfold route
  split
  · next hc => simp [hc]
  · next c cs hc =>
    have := (mem_candidates.mp (hc ▸ foldl_better_mem c cs)).2.2
    simp only [hc, reduceCtorEq, iff_false, Option.map_eq_none_iff]
    exact Option.isSome_iff_ne_none.mp this

end OapiVerif.Paths
