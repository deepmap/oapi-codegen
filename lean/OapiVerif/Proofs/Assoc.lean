import OapiVerif.Proofs.Lists
/-!
A Go map as an association list. Every `lookup` of the models is `get`; every assignment `m[k] = …` of the models
(`JsonObj.insert`, `Union.insert`, `Merge.insertProp`, `Codec.qAdd`, `Security.upd`) is `alter`: the value under the first
entry with the key is replaced in place, a new key is appended. The models' own functions unfold to these (`rfl`, or
`set_eq_alter`), so the lemmas below are the only facts about map access the property proofs need.
-/
namespace OapiVerif.Assoc
universe u v w
variable {κ : Type u} {β : Type v} [DecidableEq κ]

def get (m : List (κ × β)) (k : κ) : Option β := (m.find? (·.1 = k)).map (·.2)

/-- `m[k] = f (m[k])` -/
def alter (f : Option β → β) (m : List (κ × β)) (k : κ) : List (κ × β) :=
  if m.any (·.1 = k) then m.map (fun e => if e.1 = k then (e.1, f (some e.2)) else e) else m ++ [(k, f none)]

@[simp] theorem get_nil (k : κ) : get ([] : List (κ × β)) k = none := rfl

theorem get_cons (e : κ × β) (m : List (κ × β)) (k : κ) :
    get (e :: m) k = if e.1 = k then some e.2 else get m k := by
  by_cases h : e.1 = k <;> simp [get, h]

theorem get_eq_none {m : List (κ × β)} {k : κ} : get m k = none ↔ ∀ e ∈ m, e.1 ≠ k := by
  simp only [get, Option.map_eq_none_iff, List.find?_eq_none, decide_eq_true_eq]

theorem get_of_not_mem_keys {m : List (κ × β)} {k : κ} (h : k ∉ m.map (·.1)) : get m k = none :=
  get_eq_none.mpr fun e he hk => h (List.mem_map.mpr ⟨e, he, hk⟩)

theorem get_append (m₁ m₂ : List (κ × β)) (k : κ) : get (m₁ ++ m₂) k = (get m₁ k).or (get m₂ k) := by
  simp only [get, List.find?_append]
  cases m₁.find? (·.1 = k) <;> rfl

theorem mem_of_get {m : List (κ × β)} {k : κ} {v : β} (h : get m k = some v) : (k, v) ∈ m := by
  obtain ⟨e, he, rfl⟩ := Option.map_eq_some_iff.mp h
  obtain ⟨hm, hk⟩ := find?_key_some (f := fun e : κ × β => e.1) he
  exact hk ▸ hm

theorem get_eq_some_iff {m : List (κ × β)} (hnd : (m.map (·.1)).Nodup) {k : κ} {v : β} :
    get m k = some v ↔ (k, v) ∈ m :=
  ⟨mem_of_get, fun h => congrArg (·.map (·.2)) (find?_eq_some_of_unique h (decide_eq_true rfl) fun _ hb hk =>
    inj_of_nodup_map hnd hb h (of_decide_eq_true hk))⟩

/-- a map is its entries: the hand-out order does not matter -/
theorem get_perm {m₁ m₂ : List (κ × β)} (h : m₁.Perm m₂) (hnd : (m₁.map (·.1)).Nodup) (k : κ) :
    get m₁ k = get m₂ k :=
  congrArg (·.map (·.2)) (find?_perm_of_key h hnd k)

theorem get_filter_key (p : κ → Bool) (m : List (κ × β)) (k : κ) :
    get (m.filter fun e => p e.1) k = if p k then get m k else none := by
  induction m with
  | nil => simp
  | cons e t ih =>
    rw [List.filter_cons]
    by_cases he : e.1 = k
    · subst he; cases hp : p e.1 <;> simp [get_cons, ih, hp]
    · cases hp : p e.1 <;> simp [get_cons, ih, he]

theorem get_map_at (g : β → β) (m : List (κ × β)) (k k' : κ) :
    get (m.map fun e => if e.1 = k then (e.1, g e.2) else e) k' = if k = k' then (get m k).map g else get m k' := by
  induction m with
  | nil => simp
  | cons e t ih =>
    rw [List.map_cons, get_cons, get_cons, get_cons, ih]
    by_cases he : e.1 = k
    · subst he; by_cases hk : e.1 = k' <;> simp [hk]
    · by_cases hk : k = k'
      · subst hk; simp [he]
      · simp [he, hk]

theorem any_key (m : List (κ × β)) (k : κ) : m.any (·.1 = k) = (get m k).isSome := by
  rw [get, Option.isSome_map, Bool.eq_iff_iff, List.any_eq_true, List.find?_isSome]

theorem get_alter (f : Option β → β) (m : List (κ × β)) (k k' : κ) :
    get (alter f m k) k' = if k = k' then some (f (get m k)) else get m k' := by
  rw [alter, any_key]
  cases hg : get m k with
  | some v => rw [Option.isSome_some, if_pos rfl, get_map_at (fun b => f (some b)), hg]; rfl
  | none =>
    rw [Option.isSome_none, if_neg Bool.false_ne_true, get_append, get_cons]
    by_cases hk : k = k'
    · subst hk; simp [hg]
    · simp [hk]

theorem keys_alter (f : Option β → β) (m : List (κ × β)) (k : κ) :
    (alter f m k).map (·.1) = if k ∈ m.map (·.1) then m.map (·.1) else m.map (·.1) ++ [k] := by
  unfold alter
  by_cases h : m.any (·.1 = k) = true
  · have hm : k ∈ m.map (·.1) := by
      obtain ⟨e, he, hk⟩ := List.any_eq_true.mp h
      exact List.mem_map.mpr ⟨e, he, by simpa using hk⟩
    rw [if_pos h, if_pos hm, List.map_map]
    exact List.map_congr_left fun e _ => by by_cases he : e.1 = k <;> simp [he]
  · have hm : k ∉ m.map (·.1) := fun hm => by
      obtain ⟨e, he, hk⟩ := List.mem_map.mp hm
      exact h (List.any_eq_true.mpr ⟨e, he, by simpa using hk⟩)
    rw [if_neg h, if_neg hm]; simp

/-- The plain assignment `m[k] = v` as the models write it (`JsonObj.insert`, `Union.insert`, `Merge.insertProp` have this
body): it differs from `alter` in putting `k` where `alter` keeps the entry's own, equal, key. -/
theorem set_eq_alter (m : List (κ × β)) (k : κ) (v : β) :
    (if m.any (·.1 = k) then m.map (fun e => if e.1 = k then (k, v) else e) else m ++ [(k, v)]) = alter (fun _ => v) m k :=
  congrArg (fun f => if m.any (·.1 = k) then m.map f else m ++ [(k, v)]) (funext fun e => by split <;> simp_all)

theorem alter_fresh (f : Option β → β) {m : List (κ × β)} {k : κ} (h : ∀ e ∈ m, e.1 ≠ k) :
    alter f m k = m ++ [(k, f none)] := by
  rw [alter, any_key, get_eq_none.mpr h]; rfl

theorem filterMap_get_keys {m : List (κ × β)} (hnd : (m.map (·.1)).Nodup) :
    (m.map (·.1)).filterMap (fun k => (get m k).map fun v => (k, v)) = m := by
  rw [List.filterMap_map]
  suffices h : ∀ l : List (κ × β), (∀ e ∈ l, e ∈ m) →
      l.filterMap ((fun k => (get m k).map fun v => (k, v)) ∘ (·.1)) = l from h m fun _ h => h
  intro l
  induction l with
  | nil => intro _; rfl
  | cons e t ih =>
    intro hl
    have he : get m e.1 = some e.2 := (get_eq_some_iff hnd).mpr (hl e (by simp))
    simp only [List.filterMap_cons, Function.comp_apply, he, Option.map_some]
    rw [ih fun x hx => hl x (by simp [hx])]

/-- A run of assignments read back — the last one under a key wins, an untouched key keeps its value — for any map type
`μ` whose assignment `ins` obeys the law of `get_alter` with respect to its lookup `look`. -/
theorem get_foldl_of_law {μ : Type w} (look : μ → κ → Option β) (ins : μ → κ → β → μ)
    (law : ∀ m k v k', look (ins m k v) k' = if k = k' then some v else look m k')
    (l : List (κ × β)) (m : μ) (k : κ) :
    look (l.foldl (fun m e => ins m e.1 e.2) m) k = (get l.reverse k).or (look m k) := by
  induction l generalizing m with
  | nil => rfl
  | cons e t ih =>
    rw [List.foldl_cons, ih, List.reverse_cons, get_append, law, get_cons]
    cases get t.reverse k with
    | some _ => rfl
    | none => exact (apply_ite (Option.or · (look m k)) (e.1 = k) (some e.2) none).symm

theorem get_foldl_set (l m : List (κ × β)) (k : κ) :
    get (l.foldl (fun m e => alter (fun _ => e.2) m e.1) m) k = (get l.reverse k).or (get m k) :=
  get_foldl_of_law get (fun m k v => alter (fun _ => v) m k) (fun m k _ k' => get_alter _ m k k') l m k

theorem get_foldl_set_of_nodup {l : List (κ × β)} (hnd : (l.map (·.1)).Nodup) (m : List (κ × β)) (k : κ) :
    get (l.foldl (fun m e => alter (fun _ => e.2) m e.1) m) k = (get l k).or (get m k) := by
  rw [get_foldl_set, get_perm (List.reverse_perm l).symm hnd]

end OapiVerif.Assoc
