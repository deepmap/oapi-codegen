import OapiVerif.Model.Enums
import OapiVerif.Proofs.IntParse
/-!
Enum constants (Model/Enums.lean). The first pass keeps each distinct value once (`go_spec`); the second and the third pass are
renaming passes that give every pair a name not yet used, which the counting loop always finds (`freeName_some`, `rename_spec`);
the Go lexer reads a quoted byte back as that byte (`lex_escByte`), hence a quoted string as that string.
-/
namespace OapiVerif.Enums
open OapiVerif.Names

theorem go_spec (ns vs seen : List Str) :
    (∀ x, x ∈ (stage1.go ns vs seen).map (·.2) ↔ x ∈ vs ∧ x ∉ seen) ∧ ((stage1.go ns vs seen).map (·.2)).Nodup := by
  -- the cases of `stage1.go`: no value left; the value was seen before; it is new
  fun_induction stage1.go ns vs seen with
  | case1 => simp
  | case2 ns v vs seen hs ih =>
    have hs := List.contains_iff_mem.mp hs
    refine ⟨fun x => ?_, ih.2⟩
    rw [ih.1, List.mem_cons]
    exact ⟨fun h => ⟨.inr h.1, h.2⟩, fun h => ⟨h.1.resolve_left fun e => h.2 (e ▸ hs), h.2⟩⟩
  | case3 ns v vs seen _ hs ih =>
    have hs := mt List.contains_iff_mem.mpr hs
    obtain ⟨h1, h2⟩ := ih
    refine ⟨fun x => ?_, List.nodup_cons.mpr ⟨fun h => ((h1 v).mp h).2 List.mem_cons_self, h2⟩⟩
    rw [List.map_cons, List.mem_cons, h1, List.mem_cons, List.mem_cons]
    by_cases e : x = v
    · subst e; simp [hs]
    · simp [e]

theorem freeName_not_taken (taken : List Str) (base : Str) (fuel k : Nat) (r : Str × Nat)
    (h : freeName taken base fuel k = some r) : r.1 ∉ taken := by
  -- the cases of `freeName`: out of fuel; the candidate is taken; it is free
  fun_induction freeName taken base fuel k with
  | case1 => cases h
  | case2 _ _ _ ih => exact ih h
  | case3 _ _ hc => cases h; exact mt List.contains_iff_mem.mpr hc

theorem freeName_none (taken : List Str) (base : Str) (fuel k : Nat) (h : freeName taken base fuel k = none) :
    ∀ i, i < fuel → base ++ itoa (k + i) ∈ taken := by
  fun_induction freeName taken base fuel k with
  | case1 => exact fun i hi => absurd hi (Nat.not_lt_zero i)
  | case2 fuel k hc ih =>
    intro i hi
    cases i with
    | zero => exact List.contains_iff_mem.mp hc
    | succ j =>
      have := ih h j (Nat.lt_of_succ_lt_succ hi)
      rwa [Nat.add_assoc, Nat.add_comm 1 j] at this
  | case3 => cases h

/-- The counting loop finds a name: `taken.length + 1` distinct candidates cannot all be taken. -/
theorem freeName_some (taken : List Str) (base : Str) (k : Nat) :
    ∃ r, freeName taken base (taken.length + 1) k = some r := by
  cases h : freeName taken base (taken.length + 1) k with
  | some r => exact ⟨r, rfl⟩
  | none =>
    exfalso
    have hall := freeName_none taken base _ k h
    let cands := (List.range (taken.length + 1)).map (fun i => base ++ itoa (k + i))
    have hsub : cands ⊆ taken := fun x hx => by
      obtain ⟨i, hi, rfl⟩ := List.mem_map.mp hx
      exact hall i (List.mem_range.mp hi)
    have hnd : cands.Nodup := List.pairwise_map.mpr <| (List.pairwise_lt_range (n := taken.length + 1)).imp
      fun hij heq => Nat.ne_of_lt hij (Nat.add_left_cancel (itoa_inj _ _ (List.append_cancel_left heq)))
    have := hnd.length_le_of_subset hsub
    rw [List.length_map, List.length_range] at this
    exact Nat.not_succ_le_self _ this

theorem pickName_spec (taken : List Str) (cnt : List (Str × Nat)) (s : Str) :
    ∃ r, pickName taken cnt s = some r ∧ r.1 ∉ taken := by
  by_cases hc : taken.contains (firstCand cnt s).1 = true
  · obtain ⟨r, hr⟩ := freeName_some taken s (firstCand cnt s).2
    exact ⟨_, (if_pos hc).trans (congrArg (Option.map _) hr), freeName_not_taken _ _ _ _ r hr⟩
  · exact ⟨_, if_neg hc, mt List.contains_iff_mem.mpr hc⟩

/-- **A renaming pass** `F` (the second and the third pass are such): it walks the pairs with the result so far in `out`,
newest first, and gives each pair a name that is not in `out`. Then names stay distinct and the values are untouched. -/
theorem rename_spec {σ : Type} (F : List (Str × Str) → List (Str × Str) → σ → Option (List (Str × Str)))
    (hnil : ∀ out s, F [] out s = some out.reverse)
    (hcons : ∀ p rest out s, ∃ name s', name ∉ out.map (·.1) ∧ F (p :: rest) out s = F rest ((name, p.2) :: out) s')
    (ps out : List (Str × Str)) (s : σ) (hout : (out.map (·.1)).Nodup) :
    ∃ res, F ps out s = some res ∧ (res.map (·.1)).Nodup ∧ res.map (·.2) = out.reverse.map (·.2) ++ ps.map (·.2) := by
  induction ps generalizing out s with
  | nil =>
    refine ⟨out.reverse, hnil out s, ?_, by simp⟩
    rw [List.map_reverse]; exact (List.reverse_perm _).nodup_iff.mpr hout
  | cons p rest ih =>
    obtain ⟨name, s', hnt, hF⟩ := hcons p rest out s
    obtain ⟨res, h1, h2, h3⟩ := ih ((name, p.2) :: out) s' (List.nodup_cons.mpr ⟨hnt, hout⟩)
    exact ⟨res, hF ▸ h1, h2, by simp [h3]⟩

theorem stage2_spec (san : Str → Str) (ps out : List (Str × Str)) (cnt : List (Str × Nat)) (hout : (out.map (·.1)).Nodup) :
    ∃ res, stage2 san ps out cnt = some res ∧ (res.map (·.1)).Nodup ∧
      res.map (·.2) = out.reverse.map (·.2) ++ ps.map (·.2) :=
  rename_spec (stage2 san) (fun _ _ => rfl) (fun p rest out cnt => by
    obtain ⟨⟨name, cnt'⟩, hr, hnt⟩ := pickName_spec (out.map (·.1)) cnt (san p.1)
    exact ⟨name, cnt', hnt, by rw [stage2, hr]⟩) ps out cnt hout

theorem pass3_spec (norm : Str → Str) (ps out : List (Str × Str)) (hout : (out.map (·.1)).Nodup) :
    ∃ res, pass3 norm ps out = some res ∧ (res.map (·.1)).Nodup ∧ res.map (·.2) = out.reverse.map (·.2) ++ ps.map (·.2) :=
  rename_spec (fun ps out (_ : Unit) => pass3 norm ps out) (fun _ _ => rfl) (fun p rest out _ => by
    by_cases hc : (out.map (·.1)).contains (norm p.1) = true
    · obtain ⟨r, hf⟩ := freeName_some (out.map (·.1)) (norm p.1) 1
      exact ⟨r.1, (), freeName_not_taken _ _ _ _ r hf, (if_pos hc).trans (hf ▸ rfl)⟩
    · exact ⟨norm p.1, (), mt List.contains_iff_mem.mpr hc, if_neg hc⟩) ps out () hout

/-- "exactly the values `values`, each once" is a property of the list of values up to order -/
theorem complete_of_perm {values : List Str} {l res : List (Str × Str)} (hp : (res.map (·.2)).Perm (l.map (·.2)))
    (h : (l.map (·.2)).Nodup ∧ (∀ v ∈ values, v ∈ l.map (·.2)) ∧ (∀ p ∈ l, p.2 ∈ values)) :
    (res.map (·.2)).Nodup ∧ (∀ v ∈ values, v ∈ res.map (·.2)) ∧ (∀ p ∈ res, p.2 ∈ values) := by
  refine ⟨hp.nodup_iff.mpr h.1, fun v hv => hp.mem_iff.mpr (h.2.1 v hv), fun p hpr => ?_⟩
  obtain ⟨q, hq, e⟩ := List.mem_map.mp (hp.mem_iff.mp (List.mem_map.mpr ⟨p, hpr, rfl⟩))
  exact e ▸ h.2.2 q hq

theorem unhexL_lowerHex : ∀ n, n < 16 → unhexL (lowerHex n) = some n := by decide +kernel

theorem lexStep_esc (acc : Str) : lexStep (.normal, acc) 92 = (.esc, acc) := rfl

theorem lexStep_x (acc : Str) : lexStep (.esc, acc) 120 = (.hex0, acc) := rfl

theorem lexStep_hex0 (acc : Str) {c a : Nat} (h : unhexL c = some a) : lexStep (.hex0, acc) c = (.hex1 a, acc) := by
  simp only [lexStep, h]

theorem lexStep_hex1 (acc : Str) (a : Nat) {c b : Nat} (h : unhexL c = some b) :
    lexStep (.hex1 a, acc) c = (.normal, acc ++ [16 * a + b]) := by
  simp only [lexStep, h]

theorem lexStep_plain (acc : Str) {c : Nat} (h34 : c ≠ 34) (h10 : c ≠ 10) (h92 : c ≠ 92) :
    lexStep (.normal, acc) c = (.normal, acc ++ [c]) := by
  simp only [lexStep, if_neg h34, if_neg h10, if_neg h92]

theorem lex_escByte (b : Nat) (acc : Str) :
    (escByte b).foldl lexStep (.normal, acc) = (.normal, acc ++ [b]) := by
  -- the cases of `escByte`: nine bytes with a two-character escape of their own, `\xHH`, the byte itself
  fun_cases escByte b
  case case10 =>
    have hb : b < 256 :=  -- a control byte, or 127
      (Bool.or_eq_true_iff.mp ‹(decide (b < 32) || decide (b = 127)) = true›).elim
        (fun h => Nat.lt_trans (of_decide_eq_true h) (by decide)) (fun h => of_decide_eq_true h ▸ by decide)
    simp only [List.foldl_cons, List.foldl_nil]
    rw [lexStep_esc, lexStep_x, lexStep_hex0 acc (unhexL_lowerHex _ (Nat.div_lt_of_lt_mul hb)),
      lexStep_hex1 acc _ (unhexL_lowerHex _ (Nat.mod_lt _ (by decide))), Nat.div_add_mod]
  case case11 => exact lexStep_plain acc ‹¬b = 34› ‹¬b = 10› ‹¬b = 92›
  all_goals subst b; rfl

theorem lex_flatMap (f : Nat → Str) (s : Str)
    (hf : ∀ b ∈ s, ∀ acc, (f b).foldl lexStep (.normal, acc) = (.normal, acc ++ [b])) (acc : Str) :
    (s.flatMap f).foldl lexStep (.normal, acc) = (.normal, acc ++ s) := by
  induction s generalizing acc with
  | nil => simp
  | cons b t ih =>
    rw [List.flatMap_cons, List.foldl_append, hf b List.mem_cons_self,
      ih fun x hx => hf x (List.mem_cons_of_mem _ hx), List.append_assoc]
    rfl

theorem unqBody_of_lex {body s : Str} (h : body.foldl lexStep (.normal, []) = (.normal, s)) :
    unqBody (body ++ [34]) = some s := by
  rw [unqBody, List.foldl_append, h]; rfl

theorem unqBody_quoteBody (s : Str) : unqBody (quoteBody s ++ [34]) = some s :=
  unqBody_of_lex (lex_flatMap escByte s (fun b _ acc => lex_escByte b acc) [])

theorem unqBody_plain (v : Str) (h : ∀ b ∈ v, b ≠ 34 ∧ b ≠ 92 ∧ b ≠ 10) : unqBody (v ++ [34]) = some v := by
  have := lex_flatMap (fun b => [b]) v (fun b hb acc => lexStep_plain acc (h b hb).1 (h b hb).2.2 (h b hb).2.1) []
  rw [List.flatMap_singleton'] at this
  exact unqBody_of_lex this

end OapiVerif.Enums
