import OapiVerif.Model.Embed
import OapiVerif.Proofs.Lists
/-!
The embedding loses nothing: the chunks concatenate to the string that was cut, base64 decoding inverts encoding (three
bytes regroup as four sextets and back, the alphabet is injective, the padding comes off), and no alphabet character needs
escaping in a Go string literal — so `decodeSpec` reads back the bytes that were encoded, however the string was cut.
-/
namespace OapiVerif.Embed

theorem chunkN_flatten {α} (w n : Nat) (s : List α) : (chunkN w n s).flatten = s := by
  fun_induction chunkN w n s <;> simp_all

theorem chunkN_len {α} (w : Nat) (hw : 0 < w) (n : Nat) (s : List α) (hs : s.length ≤ n) :
    ∀ c ∈ chunkN w n s, c.length ≤ w ∧ c ≠ [] := by
  -- the cases of `chunkN`: out of fuel with nothing or something left; a full chunk cut off; nothing or a last short chunk left
  fun_induction chunkN w n s with
  | case1 s h => exact List.forall_mem_nil _
  | case2 s h => exact absurd (List.eq_nil_of_length_eq_zero (Nat.le_zero.mp hs)) (by simpa using h)
  | case3 n s hgt ih =>
    intro c hc
    rcases List.mem_cons.mp hc with rfl | hc
    · have hl : (s.take w).length = w := List.length_take_of_le (Nat.le_of_lt hgt)
      exact ⟨Nat.le_of_eq hl, fun e => by rw [e] at hl; exact Nat.ne_of_lt hw hl⟩
    · exact ih (List.length_drop ▸ Nat.sub_le_of_le_add (Nat.le_trans hs (Nat.add_le_add_left hw n))) c hc
  | case4 n s hle h => exact List.forall_mem_nil _
  | case5 n s hle h =>
    intro c hc
    cases List.mem_singleton.mp hc
    exact ⟨Nat.not_lt.mp hle, by simpa using h⟩

theorem decChar_encChar : ∀ i, i < 64 → decChar (encChar i) = some i := by decide +kernel

theorem encChar_safe : ∀ i, i < 64 → encChar i ≠ 61 ∧ encChar i ≠ 34 ∧ encChar i ≠ 92 ∧ encChar i ≠ 10 := by decide +kernel

theorem encChar_ne_pad : ∀ i, i < 64 → encChar i ≠ 61 := fun i h => (encChar_safe i h).1

/-- two digits `a`, `c` in radix `m`: the value is bounded and gives the first digit back (the second is
`Nat.mul_add_mod_of_lt`) -/
theorem digits_lt {a c m k : Nat} (ha : a < k) (hc : c < m) : a * m + c < k * m :=
  Nat.lt_of_lt_of_le (Nat.add_lt_add_left hc _) (Nat.succ_mul a m ▸ Nat.mul_le_mul_right m ha)

theorem digits_div {a c m : Nat} (hc : c < m) : (a * m + c) / m = a := by
  rw [Nat.add_comm, Nat.add_mul_div_right _ _ (Nat.zero_lt_of_lt hc), Nat.div_eq_of_lt hc, Nat.zero_add]

/-- Three bytes regrouped as four sextets, and back. With `b2 = 0` (and `b1 = 0`) this is also the arithmetic of the
two short tails. -/
theorem regroup (b0 b1 b2 : Nat) (h0 : b0 < 256) (h1 : b1 < 256) (h2 : b2 < 256) :
    (b0 / 4 < 64 ∧ b0 % 4 * 16 + b1 / 16 < 64 ∧ b1 % 16 * 4 + b2 / 64 < 64 ∧ b2 % 64 < 64) ∧
    b0 / 4 * 4 + (b0 % 4 * 16 + b1 / 16) / 16 = b0 ∧
    (b0 % 4 * 16 + b1 / 16) % 16 * 16 + (b1 % 16 * 4 + b2 / 64) / 4 = b1 ∧
    (b1 % 16 * 4 + b2 / 64) % 4 * 64 + b2 % 64 = b2 :=
  -- named lemmas per equation: `omega` on this digit arithmetic is six times as dear to check
  have d1 : b1 / 16 < 16 := Nat.div_lt_of_lt_mul h1
  have d2 : b2 / 64 < 4 := Nat.div_lt_of_lt_mul h2
  ⟨⟨Nat.div_lt_of_lt_mul h0, digits_lt (Nat.mod_lt _ (by decide)) d1,
      digits_lt (Nat.mod_lt _ (by decide)) d2, Nat.mod_lt _ (by decide)⟩,
    by rw [digits_div d1, Nat.div_add_mod'],
    by rw [Nat.mul_add_mod_of_lt d1, digits_div d2, Nat.div_add_mod'],
    by rw [Nat.mul_add_mod_of_lt d2, Nat.div_add_mod']⟩

/-- The body decodes to the bytes, and each of its characters is a base64 alphabet character (never `=`, quote, backslash,
newline): one induction, since both rest on the sextets of a group being below 64. -/
theorem encodeBody_spec (bs : Bytes) (h : ∀ b ∈ bs, b < 256) :
    decodeBody (encodeBody bs) = some bs ∧ ∀ c ∈ encodeBody bs, c ≠ 61 ∧ c ≠ 34 ∧ c ≠ 92 ∧ c ≠ 10 := by
  induction bs using encodeBody.induct with
  | case1 b0 b1 b2 rest ih =>
    simp only [List.forall_mem_cons] at h
    obtain ⟨⟨l0, l1, l2, l3⟩, a0, a1, a2⟩ := regroup b0 b1 b2 h.1 h.2.1 h.2.2.1
    obtain ⟨ihd, ihc⟩ := ih h.2.2.2
    simp only [encodeBody, decodeBody, decChar_encChar _ l0, decChar_encChar _ l1, decChar_encChar _ l2,
      decChar_encChar _ l3, ihd, a0, a1, a2, List.forall_mem_cons, true_and]
    exact ⟨encChar_safe _ l0, encChar_safe _ l1, encChar_safe _ l2, encChar_safe _ l3, ihc⟩
  | case2 b0 b1 =>
    simp only [List.forall_mem_cons] at h
    obtain ⟨⟨l0, l1, l2, _⟩, a0, a1, _⟩ := regroup b0 b1 0 h.1 h.2.1 (by decide)
    simp only [Nat.zero_div, Nat.add_zero] at l2 a1
    simp only [encodeBody, decodeBody, decChar_encChar _ l0, decChar_encChar _ l1, decChar_encChar _ l2, a0, a1,
      List.forall_mem_cons, true_and]
    exact ⟨encChar_safe _ l0, encChar_safe _ l1, encChar_safe _ l2, List.forall_mem_nil _⟩
  | case3 b0 =>
    simp only [List.forall_mem_cons] at h
    obtain ⟨⟨l0, l1, _, _⟩, a0, _, _⟩ := regroup b0 0 0 h.1 (by decide) (by decide)
    simp only [Nat.zero_div, Nat.add_zero] at l1 a0
    simp only [encodeBody, decodeBody, decChar_encChar _ l0, decChar_encChar _ l1, a0, List.forall_mem_cons, true_and]
    exact ⟨encChar_safe _ l0, encChar_safe _ l1, List.forall_mem_nil _⟩
  | case4 => exact ⟨rfl, List.forall_mem_nil _⟩

theorem b64encode_length (bs : Bytes) : (b64encode bs).length % 4 = 0 := by
  induction bs using encodeBody.induct with
  | case1 b0 b1 b2 rest ih =>
    have e : (b0 :: b1 :: b2 :: rest).length % 3 = rest.length % 3 := Nat.add_mod_right _ 3
    rw [b64encode, e, encodeBody]
    exact (Nat.add_mod_right _ 4).trans ih
  | case2 | case3 | case4 => simp [b64encode, encodeBody]

theorem stripPad_append (body : Bytes) (hlast : ∀ c, body.getLast? = some c → c ≠ 61) (k : Nat) (hk : k ≤ 2) :
    stripPad (body ++ List.replicate k 61) = body := by
  obtain ⟨rb, rfl⟩ : ∃ rb, body = rb.reverse := ⟨body.reverse, (List.reverse_reverse _).symm⟩
  unfold stripPad
  rw [List.reverse_append, List.reverse_replicate, List.reverse_reverse]
  rw [List.getLast?_reverse] at hlast
  obtain _ | _ | _ | k := k
  · cases rb with | nil => rfl | cons c r => simp [hlast c rfl]
  · cases rb with | nil => rfl | cons c r => simp [hlast c rfl]
  · rfl
  · exact absurd (Nat.le_trans (Nat.le_add_left 3 k) hk) (by decide)

theorem b64decode_b64encode (bs : Bytes) (h : ∀ b ∈ bs, b < 256) : b64decode (b64encode bs) = some bs := by
  rw [b64decode, if_neg (by simp [b64encode_length]), b64encode]
  have hs := stripPad_append (encodeBody bs) (fun c hc => ((encodeBody_spec bs h).2 c (List.mem_of_getLast? hc)).1)
    ((3 - bs.length % 3) % 3) (Nat.le_of_lt_succ (Nat.mod_lt _ (by decide)))
  rw [pad, hs]
  exact (encodeBody_spec bs h).1

theorem b64encode_literal_safe (bs : Bytes) (h : ∀ b ∈ bs, b < 256) :
    ∀ c ∈ b64encode bs, c ≠ 34 ∧ c ≠ 92 ∧ c ≠ 10 := by
  intro c hc
  simp only [b64encode, List.mem_append, List.mem_replicate] at hc
  rcases hc with hc | ⟨_, rfl⟩
  · exact ((encodeBody_spec bs h).2 c hc).2
  · decide

theorem mapM_literal (chunks : List Bytes) (h : ∀ ch ∈ chunks, ∀ c ∈ ch, c ≠ 34 ∧ c ≠ 92 ∧ c ≠ 10) :
    chunks.mapM goStringLiteralValue = some chunks := by
  have := mapM_map_eq_some goStringLiteralValue id id chunks fun ch hch =>
    if_pos (List.all_eq_true.mpr fun c hc => by
      simp only [Bool.and_eq_true, bne_iff_ne]; exact and_assoc.mpr (h ch hch c hc))
  rwa [List.map_id] at this

/-- However the encoded string is cut into literals — any width, any cutting points — `decodeSpec` sees the bytes that
were encoded. -/
theorem decodeSpec_of_flatten (gunzip : Bytes → Option Bytes) (cs : List Bytes) (z : Bytes) (hb : ∀ b ∈ z, b < 256)
    (hcs : cs.flatten = b64encode z) : decodeSpec gunzip cs = gunzip z := by
  have hm := mapM_literal cs fun ch hch c hc =>
    b64encode_literal_safe z hb c (hcs ▸ List.mem_flatten.mpr ⟨ch, hch, hc⟩)
  simp only [decodeSpec, hm, Option.bind_eq_bind, Option.bind_some, hcs, b64decode_b64encode z hb]

end OapiVerif.Embed
