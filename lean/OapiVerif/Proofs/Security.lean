import OapiVerif.Model.Security
import OapiVerif.Proofs.Assoc
/-!
What is read back after the writes of Model/Security: a header set, a query and the request context are maps, `upd` is map
assignment (`Assoc.alter`), the context keeps the last write under a key; and the cookie sanitisers are the identity on what
needs no sanitising.
-/
namespace OapiVerif.Security
open OapiVerif.Names (Uni Str)

/-- `Header.Set`, `Header.Add` and `Values.Add` read back: the key written holds `f` of what it held, every other key is
untouched. -/
theorem hGet_upd (f : List Str → List Str) (h : List (Str × List Str)) (k k' : Str) :
    hGet (upd f h k) k' = if k = k' then some (f ((hGet h k).getD [])) else hGet h k' :=
  Assoc.get_alter (fun o => f (o.getD [])) h k k'

theorem hGet_hSet (h : List (Str × List Str)) (k v : Str) : hGet (hSet h k v) k = some [v] :=
  (hGet_upd (fun _ => [v]) h k k).trans (if_pos rfl)

theorem hGet_hAdd (h : List (Str × List Str)) (k v : Str) : hGet (hAdd h k v) k = some ((hGet h k).getD [] ++ [v]) :=
  (hGet_upd (· ++ [v]) h k k).trans (if_pos rfl)

/-- What a handler reads under a key is the scope list of the last definition that is published under it. -/
theorem ctxGet_publish (U : Uni) (defs : List Def) (key : Str) :
    ctxGet (publish U defs) key = (defs.reverse.find? (keyValue U ·.provider = key)).map (·.scopes) := by
  simp only [ctxGet, publish, ← List.map_reverse, List.find?_map, Option.map_map, Function.comp_def]

theorem sanitizeCookieName_safe (name : Str) (h : ∀ b ∈ name, b ≠ 10 ∧ b ≠ 13) : sanitizeCookieName name = name :=
  (List.map_congr_left fun b hb => by simp [(h b hb).1, (h b hb).2]).trans (List.map_id name)

/-- A value of cookie octets without blank and comma is neither filtered nor quoted. -/
theorem sanitizeCookieValue_safe (key : Str)
    (hb : ∀ b ∈ key, validCookieValueByte b = true ∧ b ≠ 32 ∧ b ≠ 44) : sanitizeCookieValue key = key := by
  have hf : key.filter validCookieValueByte = key := List.filter_eq_self.mpr fun b hbm => (hb b hbm).1
  have h32 : ¬ 32 ∈ key := fun hm => (hb 32 hm).2.1 rfl
  have h44 : ¬ 44 ∈ key := fun hm => (hb 44 hm).2.2 rfl
  simp [sanitizeCookieValue, hf, h32, h44]

end OapiVerif.Security
