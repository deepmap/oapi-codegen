import OapiVerif.Model.Form
import OapiVerif.Proofs.IntParse
import OapiVerif.Proofs.Assoc
namespace OapiVerif.Form
open OapiVerif.IntParse

theorem parse_render (t : Sc) (v : SVal) : typed t v = true → parse t (render v) = some v := by
  -- the cases of `typed`: a string, an integer in range, a boolean; anything else is not typed
  fun_cases typed t v with
  | case1 s => exact fun _ => rfl
  | case2 bits v => exact fun h => by simp only [parse, render, parseInt_render bits v (of_decide_eq_true h)]
  | case3 b => exact fun _ => congrArg (·.map SVal.bool) (parseBool_renderBool b)
  | case4 => exact nofun

theorem marshal_keys_sublist (fs : List Field) (vs : List (Option SVal)) :
    ((marshal fs vs).map (·.1)).Sublist (fs.map (·.name)) := by
  -- the cases of `marshal`: a member with a value (one pair), a nil member (none), and no further member or value
  fun_induction marshal fs vs with
  | case1 f fs v vs ih => exact ih.cons_cons _
  | case2 f fs vs ih => exact ih.cons _
  | case3 => exact List.nil_sublist _

theorem lookup_marshal_none (fs : List Field) (vs : List (Option SVal)) (k : Str) (h : k ∉ fs.map (·.name)) :
    lookup (marshal fs vs) k = none :=
  Assoc.get_of_not_mem_keys fun hk => h ((marshal_keys_sublist fs vs).subset hk)

theorem bind_skip (fs : List Field) (k v : Str) (form : List (Str × Str)) (h : k ∉ fs.map (·.name)) :
    bind ((k, v) :: form) fs = bind form fs := by
  induction fs with
  | nil => rfl
  | cons f fs ih =>
    simp only [List.map_cons, List.mem_cons, not_or] at h
    simp only [bind, lookup, List.find?_cons, h.1, decide_false, ih h.2]

/-- What `MarshalForm` writes for a body struct, `BindForm` reads back as that struct. -/
theorem bind_marshal (fs : List Field) (vs : List (Option SVal)) (hnd : (fs.map (·.name)).Nodup)
    (hw : wellTyped fs vs = true) : bind (marshal fs vs) fs = some vs := by
  -- the cases of `wellTyped`: no member; a member with a value; a nil member; lists of different lengths
  fun_induction wellTyped fs vs with
  | case1 => rfl
  | case2 f fs v vs ih =>
    rw [List.map_cons, List.nodup_cons] at hnd
    rw [Bool.and_eq_true] at hw
    simp only [marshal, bind, lookup, List.find?_cons, decide_true, Option.map_some, parse_render f.ty v hw.1,
      bind_skip fs f.name (render v) (marshal fs vs) hnd.1, ih hnd.2 hw.2]
  | case3 f fs vs ih =>
    rw [List.map_cons, List.nodup_cons] at hnd
    rw [Bool.and_eq_true] at hw
    simp only [marshal, bind, lookup_marshal_none fs vs f.name hnd.1, ih hnd.2 hw.2, hw.1, if_true]
  | case4 => cases hw

end OapiVerif.Form
