import OapiVerif.Model.Comment
/-! The rendered comment line by line (`linesOk`: whatever follows a newline starts with `//`) and rune by rune (what `normalize`,
`body`, the first marker and `trimTail` can add or keep). -/
namespace OapiVerif.Comment

theorem linesOk_cons {c : Nat} {t : Str} (hc : c ≠ 10) (ht : linesOk t = true) : linesOk (c :: t) = true :=
  Bool.and_eq_true_iff.mpr ⟨Bool.or_eq_true_iff.mpr (.inl (bne_iff_ne.mpr hc)), ht⟩

theorem linesOk_body (s : Str) : linesOk (body s) = true := by
  -- the cases of `body`: the end; a newline, which the marker of the next line follows; any other character
  fun_induction body s with
  | case1 => rfl
  | case2 t ih => exact ih
  | case3 c t hc ih => exact linesOk_cons hc ih

theorem linesOk_append_of_no_nl (a b : Str) (ha : 10 ∉ a) (hb : linesOk b = true) : linesOk (a ++ b) = true := by
  induction a with
  | nil => exact hb
  | cons c t ih => exact linesOk_cons (fun e => ha (e ▸ List.mem_cons_self)) (ih fun h => ha (List.mem_cons_of_mem _ h))

/-- A text that starts a comment still does when it is cut in front of a newline: `//` has no newline. -/
theorem startsComment_of_append_nl (a b : Str) (h : startsComment (a ++ 10 :: b) = true) : startsComment a = true := by
  -- the newline is not the first character, nor the second
  obtain _ | ⟨_, _ | _⟩ := a
  · exact absurd h Bool.false_ne_true
  · exact absurd (Bool.and_eq_true_iff.mp h).2 Bool.false_ne_true
  · exact h

theorem linesOk_of_append_nl (a b : Str) (h : linesOk (a ++ 10 :: b) = true) : linesOk a = true := by
  induction a with
  | nil => rfl
  | cons c t ih =>
    simp only [List.cons_append, linesOk, Bool.and_eq_true, Bool.or_eq_true] at h ⊢
    exact ⟨h.1.imp_right (startsComment_of_append_nl t b), ih h.2⟩

theorem trimTail_ok (s : Str) (h1 : startsComment s = true) (h2 : linesOk s = true) : allCommented (trimTail s) = true := by
  unfold trimTail
  split
  · next hs =>
    obtain ⟨a, rfl⟩ := List.isSuffixOf_iff_suffix.mp hs
    rw [List.take_left' (by rw [List.length_append]; rfl)]
    simp [allCommented, startsComment_of_append_nl a _ h1, linesOk_of_append_nl a _ h2]
  · simp [allCommented, h1, h2]

theorem startsComment_first (p rest : Str) : startsComment (first p ++ rest) = true := by
  unfold first
  split <;> rfl

theorem not_mem_first (c : Nat) (p : Str) (h47 : c ≠ 47) (h32 : c ≠ 32) (hp : c ∉ p) : c ∉ first p := by
  unfold first
  split <;> simp [slashes, hp, h47, h32]

theorem mem_trimTail {c : Nat} {s : Str} (h : c ∈ trimTail s) : c ∈ s := by
  unfold trimTail at h
  split at h
  · exact List.mem_of_mem_take h
  · exact h

theorem not_cr_normalize (s : Str) : 13 ∉ normalize s := by
  fun_induction normalize s with
  | case1 => exact List.not_mem_nil
  | case2 t ih | case3 t _ ih => exact fun h => (List.mem_cons.mp h).elim (by decide) ih  -- `\r\n`, a lone `\r`: now `\n`
  | case4 c t _ hc ih => exact fun h => (List.mem_cons.mp h).elim (fun e => hc e.symm) ih  -- any other character

theorem mem_body (s : Str) (c : Nat) (h : c ∈ body s) : c ∈ s ∨ c = 47 ∨ c = 32 := by
  fun_induction body s with
  | case1 => exact nomatch h
  | case2 t ih =>
    simp only [List.mem_cons] at h
    rcases h with h | h | h | h | h
    · exact .inl (h ▸ List.mem_cons_self)
    · exact .inr (.inl h)
    · exact .inr (.inl h)
    · exact .inr (.inr h)
    · exact (ih h).imp_left (List.mem_cons_of_mem _)
  | case3 x t hx ih =>
    exact (List.mem_cons.mp h).elim (fun h => .inl (h ▸ List.mem_cons_self)) fun h => (ih h).imp_left (List.mem_cons_of_mem _)

end OapiVerif.Comment
