import OapiVerif.Model.Codec
/-!
The codec with nothing escaped: `strings.Join` and `strings.Split`, what the separators of the styles do to a joined list
(`splitStyled_joined`, `partsToPairs_objParts`), and that the un-escaped serialisation is the row of the OAS table.
-/
namespace OapiVerif.Codec
open OapiVerif.Escape

theorem join_cons_cons (sep : Str) (x y : Str) (t : List Str) :
    join sep (x :: y :: t) = x ++ sep ++ join sep (y :: t) := rfl

theorem join_eq_intercalate (sep : Str) (xs : List Str) : join sep xs = sep.intercalate xs := by
  induction xs with
  | nil => simp [join]
  | cons x t ih =>
    cases t with
    | nil => simp [join]
    | cons y t' =>
      rw [join_cons_cons, ih, List.intercalate_cons_of_ne_nil (zs := y :: t') (by simp)]

/-- `strings.Split(strings.Join(xs, c), c) = xs` when no part contains `c` and there is a part. -/
theorem split_join (c : Nat) (xs : List Str) (hne : xs ≠ []) (h : ∀ x ∈ xs, c ∉ x) :
    split c (join [c] xs) = xs := by
  rw [split, join_eq_intercalate]; exact List.splitOn_intercalate c h hne

theorem join_map_ne_nil {α} (f : α → Str) (xs : List α) (h : xs ≠ []) : xs.map f ≠ [] :=
  mt List.map_eq_nil_iff.mp h

theorem join_cons (sep x : Str) (t : List Str) : join sep (x :: t) = x ++ t.flatMap (sep ++ ·) := by
  induction t generalizing x with
  | nil => simp [join]
  | cons y t ih => rw [join_cons_cons, ih]; simp

theorem join_map_prefix (pre sep : Str) (xs : List Str) (hne : xs ≠ []) :
    pre ++ join (sep ++ pre) xs = join sep (xs.map (pre ++ ·)) := by
  cases xs with
  | nil => exact absurd rfl hne
  | cons x t => simp [join_cons, List.flatMap_map]

/-- The exploded label and matrix rows of the OAS table. -/
theorem prefix_join_eq_flatMap (pre : Str) (xs : List Str) (hne : xs ≠ []) :
    pre ++ join pre xs = xs.flatMap (fun x => pre ++ x) := by
  cases xs with
  | nil => exact absurd rfl hne
  | cons x t => simp [join_cons]

theorem split_head_ne_nil {sep c : Nat} (rest : Str) (hc : c ≠ sep) :
    ∃ first tl, split sep (c :: rest) = first :: tl ∧ first ≠ [] := by
  unfold split
  rw [List.splitOn_cons_eq_if_modifyHead, if_neg (by simpa using hc)]
  cases h : List.splitOn sep rest with
  | nil => exact absurd h (List.splitOn_ne_nil sep rest)
  | cons y t => exact ⟨c :: y, t, rfl, List.cons_ne_nil _ _⟩

theorem mem_join (sep : Str) (xs : List Str) (c : Nat) (h : c ∈ join sep xs) : c ∈ sep ∨ ∃ x ∈ xs, c ∈ x := by
  cases xs with
  | nil => cases h
  | cons x t =>
    rw [join_cons, List.mem_append, List.mem_flatMap] at h
    rcases h with h | ⟨y, hy, h⟩
    · exact .inr ⟨x, by simp, h⟩
    · exact (List.mem_append.mp h).imp_right fun h => ⟨y, by simp [hy], h⟩

theorem split_cons_join (c : Nat) (xs : List Str) (hne : xs ≠ []) (h : ∀ x ∈ xs, c ∉ x) :
    split c (c :: join [c] xs) = [] :: xs := by
  obtain ⟨x, t, rfl⟩ := List.exists_cons_of_ne_nil hne
  exact split_join c ([] :: x :: t) (List.cons_ne_nil _ _) (List.forall_mem_cons.mpr ⟨List.not_mem_nil, h⟩)

/-- What a server that splits on `c` sees of `c p x₁ c p x₂ …`: an empty first part, then the parts with `p` in front. -/
theorem split_prefixed (c : Nat) (p : Str) (xs : List Str) (hne : xs ≠ []) (hp : c ∉ p)
    (h : ∀ x ∈ xs, c ∉ x) : split c (c :: (p ++ join (c :: p) xs)) = [] :: xs.map (p ++ ·) := by
  rw [show c :: p = [c] ++ p from rfl, join_map_prefix p [c] xs hne]
  apply split_cons_join c _ (join_map_ne_nil _ xs hne)
  intro x hx
  obtain ⟨y, hy, rfl⟩ := List.mem_map.mp hx
  exact fun hc => (List.mem_append.mp hc).elim hp (h y hy)

theorem stripPrefix_append (p x : Str) : stripPrefix p (p ++ x) = some x := by
  simp [stripPrefix]

theorem trimPrefix_append (p x : Str) : trimPrefix p (p ++ x) = x := by
  rw [trimPrefix, stripPrefix_append]; rfl

theorem map_trimPrefix (p : Str) (xs : List Str) : (xs.map (p ++ ·)).map (trimPrefix p) = xs := by
  simp [Function.comp_def, trimPrefix_append]

@[simp] theorem escLoc_header : escLoc .header = id := by funext s; rfl
@[simp] theorem escLoc_cookie : escLoc .cookie = id := by funext s; rfl
@[simp] theorem escLoc_undefined : escLoc .undefined = id := by funext s; rfl
@[simp] theorem escLoc_path : escLoc .path = escape .path := by funext s; rfl
@[simp] theorem escLoc_query : escLoc .query = escape .query := by funext s; rfl

/-- The delimiter an array part may not contain ("no delimiter character of the style itself"). -/
def arrDelim : Style → Bool → Nat
  | .simple, _ => cComma
  | .label, true => cDot
  | .label, false => cComma
  | .matrix, true => cSemi
  | .matrix, false => cComma
  | .form, true => cAmp
  | .form, false => cComma

theorem arrDelim_ne_eq (st : Style) (e : Bool) : arrDelim st e ≠ cEq := by
  cases st <;> cases e <;> decide

theorem splitStyled_label_exploded (object : Bool) (name : Str) {v : Str} {rest : List Str}
    (h : split cDot v = [] :: rest) : splitStyled .label true object name v = .ok rest := by
  unfold splitStyled; rw [h]; rfl

theorem splitStyled_matrix_exploded (object : Bool) (name : Str) {v : Str} {rest : List Str}
    (h : split cSemi v = [] :: rest) :
    splitStyled .matrix true object name v = .ok (if object then rest else rest.map (trimPrefix (name ++ [cEq]))) := by
  unfold splitStyled; rw [h]; rfl

theorem splitStyled_matrix_unexploded (object : Bool) (name r : Str) :
    splitStyled .matrix false object name ((cSemi :: name ++ [cEq]) ++ r) = .ok (split cComma r) := by
  unfold splitStyled; rw [stripPrefix_append]; rfl

/-- What `splitStyled` makes of parts joined with the prefix and separator that the style uses for the destination, an
object's members or an array's items. The two differ in the exploded matrix only: an array writes `;name=` in front of every
item and the binder strips `name=` again, an object writes `;` alone.
Style `form` is left out: unexploded, `splitStyled` trims `name=` off every piece and not only off the first, so the statement
is false for it; generated code binds form parameters, which are the query parameters, through `bindQuery`
(Proofs/QueryParam.lean). -/
theorem splitStyled_joined (st : Style) (hst : st ≠ .form) (e object : Bool) (name : Str) (ps : List Str) (hne : ps ≠ [])
    (hnd : ∀ x ∈ ps, arrDelim st e ∉ x) (hnn : object = false → arrDelim st e ∉ name) :
    splitStyled st e object name
      ((if object then objPrefixSep st e name else arrPrefixSep st e name).1 ++
        join (if object then objPrefixSep st e name else arrPrefixSep st e name).2 ps) = .ok ps := by
  cases st with
  | form => exact absurd rfl hst
  | simple =>
    rw [show objPrefixSep .simple e name = arrPrefixSep .simple e name from rfl, ite_self]
    exact congrArg Except.ok (split_join cComma ps hne hnd)
  | label =>
    rw [show objPrefixSep .label e name = arrPrefixSep .label e name from rfl, ite_self]
    cases e with
    | false => exact congrArg Except.ok (split_join cComma ps hne hnd)
    | true => exact splitStyled_label_exploded object name (split_cons_join cDot ps hne hnd)
  | matrix =>
    cases e with
    | false =>
      rw [show objPrefixSep .matrix false name = arrPrefixSep .matrix false name from rfl, ite_self]
      exact (splitStyled_matrix_unexploded object name _).trans (congrArg Except.ok (split_join cComma ps hne hnd))
    | true =>
      cases object with
      | true => exact splitStyled_matrix_exploded true name (split_cons_join cSemi ps hne hnd)
      | false =>
        exact (splitStyled_matrix_exploded false name (split_prefixed cSemi (name ++ [cEq]) ps hne
          (fun h => (List.mem_append.mp h).elim (hnn rfl) (by decide)) hnd)).trans
          (congrArg Except.ok (map_trimPrefix _ ps))

theorem splitStyled_arr (st : Style) (hst : st ≠ .form) (e : Bool) (name : Str) (xs : List Str) (hne : xs ≠ [])
    (hnd : ∀ x ∈ xs, arrDelim st e ∉ x) (hnn : arrDelim st e ∉ name) :
    splitStyled st e false name (styleParam st e name .header (.arr xs)) = .ok xs := by
  simp only [styleParam, escLoc_header, List.map_id]
  exact splitStyled_joined st hst e false name xs hne hnd fun _ => hnn

theorem objParts_ne_nil (explode : Bool) (loc : Loc) (kvs : List (Str × Str)) (h : kvs ≠ []) :
    objParts explode loc kvs ≠ [] := by
  cases kvs with
  | nil => exact absurd rfl h
  | cons kv t => cases explode <;> exact List.cons_ne_nil _ _

theorem not_mem_kv {c : Nat} {kw vw : Str} (hc : c ≠ 61) (hk : c ∉ kw) (hv : c ∉ vw) : c ∉ kw ++ [61] ++ vw :=
  fun h => (List.mem_append.mp h).elim (fun h => (List.mem_append.mp h).elim hk fun h => hc (List.mem_singleton.mp h)) hv

theorem objParts_nodelim (explode : Bool) (d : Nat) (hd : d ≠ cEq) (kvs : List (Str × Str))
    (hk : ∀ kv ∈ kvs, d ∉ kv.1) (hv : ∀ kv ∈ kvs, d ∉ kv.2) :
    ∀ x ∈ objParts explode .header kvs, d ∉ x := by
  intro x hx
  cases explode with
  | true =>
    obtain ⟨kv, hkv, rfl⟩ := List.mem_map.mp hx
    exact not_mem_kv hd (hk kv hkv) (hv kv hkv)
  | false =>
    obtain ⟨kv, hkv, h⟩ := List.mem_flatMap.mp hx
    rcases List.mem_cons.mp h with rfl | h
    · exact hk kv hkv
    · exact List.mem_singleton.mp h ▸ hv kv hkv

theorem explodedPairs_kv (kvs : List (Str × Str)) (h : ∀ kv ∈ kvs, cEq ∉ kv.1 ∧ cEq ∉ kv.2) :
    explodedPairs (kvs.map (fun kv => kv.1 ++ [cEq] ++ kv.2)) = .ok kvs := by
  induction kvs with
  | nil => rfl
  | cons kv t ih =>
    have hkv := h kv (by simp)
    have hs : split cEq (kv.1 ++ [cEq] ++ kv.2) = [kv.1, kv.2] := by
      rw [split, List.append_assoc, List.singleton_append, List.splitOn_append_cons_self_of_not_mem hkv.1,
        List.splitOn_eq_singleton hkv.2]
    simp only [List.map_cons, explodedPairs, hs, ih (fun x hx => h x (by simp [hx]))]

theorem pairUp_flat (kvs : List (Str × Str)) :
    pairUp (kvs.flatMap (fun kv => [kv.1, kv.2])) = some kvs := by
  induction kvs with
  | nil => rfl
  | cons kv t ih => simp [pairUp, ih]

theorem partsToPairs_objParts (explode : Bool) (kvs : List (Str × Str))
    (h : explode = true → ∀ kv ∈ kvs, cEq ∉ kv.1 ∧ cEq ∉ kv.2) :
    partsToPairs explode (objParts explode .header kvs) = .ok kvs := by
  cases explode with
  | true =>
    simp only [objParts]
    exact explodedPairs_kv kvs (h rfl)
  | false => simp [partsToPairs, objParts, pairUp_flat]

theorem styleParam_mapStr (st : Style) (e : Bool) (name : Str) (loc : Loc) (v : Val) :
    styleParam st e name loc v = styleParam st e name .header (v.mapStr (escLoc loc)) := by
  cases v with
  | prim s => rfl
  | arr xs => simp [styleParam, Val.mapStr]
  | obj kvs =>
    refine (congrArg (fun ps => (objPrefixSep st e name).1 ++ join (objPrefixSep st e name).2 ps) ?_).symm
    cases e with | false => exact List.flatMap_map .. | true => exact List.map_map ..

theorem arr_eq_oas (st : Style) (e : Bool) (name : Str) (ys : List Str) (hm : ys ≠ []) :
    styleParam st e name .header (.arr ys) = oasSerialize st e name (.arr ys) := by
  simp only [styleParam, escLoc_header, List.map_id]
  cases st with
  | simple => rfl
  | label => cases e with
    | false => rfl
    | true => exact prefix_join_eq_flatMap [cDot] ys hm
  | matrix => cases e with
    | false => exact List.append_assoc (cSemi :: name) [cEq] _
    | true =>
      exact (prefix_join_eq_flatMap _ ys hm).trans
        (congrArg (ys.flatMap ·) (funext (List.append_assoc (cSemi :: name) [cEq])))
  | form => cases e with
    | false => exact List.append_assoc name [cEq] _
    | true =>
      exact (join_map_prefix (name ++ [cEq]) [cAmp] ys hm).trans
        (congrArg (fun f => join [cAmp] (ys.map f)) (funext (List.append_assoc name [cEq])))

theorem obj_eq_oas (st : Style) (e : Bool) (name : Str) (kvs : List (Str × Str)) (hm : kvs ≠ []) :
    styleParam st e name .header (.obj kvs) = oasSerialize st e name (.obj kvs) := by
  have hp : objParts e .header kvs ≠ [] := objParts_ne_nil e .header kvs hm
  cases st with
  | simple => cases e <;> rfl
  | label => cases e with
    | false => rfl
    | true => exact prefix_join_eq_flatMap [cDot] _ hp
  | matrix => cases e with
    | false => exact List.append_assoc (cSemi :: name) [cEq] _
    | true => exact prefix_join_eq_flatMap [cSemi] _ hp
  | form => cases e with
    | false => exact List.append_assoc name [cEq] _
    | true => rfl

end OapiVerif.Codec
